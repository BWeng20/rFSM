-- Root of the `Rfsm` library: the twenty property modules bring in every model and proof module they rest on;
-- `Model/Wire.lean` (hex helpers of the driver's line protocol) is used by no property and is imported by hand.
import Rfsm.Model.Wire
import Rfsm.Props.C01
import Rfsm.Props.C02
import Rfsm.Props.C03
import Rfsm.Props.C04
import Rfsm.Props.C05
import Rfsm.Props.C06
import Rfsm.Props.C07
import Rfsm.Props.C08
import Rfsm.Props.C09
import Rfsm.Props.C10
import Rfsm.Props.C11
import Rfsm.Props.C12
import Rfsm.Props.C13
import Rfsm.Props.C14
import Rfsm.Props.C15
import Rfsm.Props.C16
import Rfsm.Props.C17
import Rfsm.Props.C18
import Rfsm.Props.C19
import Rfsm.Props.C20
