import Lean.Elab.Command
import Lean.Util.CollectAxioms
/-!
`#assert_axioms thm` — elaboration fails unless `thm` depends on nothing beyond
`propext`, `Classical.choice`, `Quot.sound`.  Every property theorem is followed by one; `bin/check`
counts the `AXIOMS-OK` lines it prints and refuses a property module that has a theorem without one.
-/
open Lean Elab Command

elab "#assert_axioms " id:ident : command => do
  let name ← liftCoreM <| realizeGlobalConstNoOverloadWithInfo id
  let axs ← liftCoreM <| collectAxioms name
  let allowed : List Name := [``propext, ``Classical.choice, ``Quot.sound]
  let bad := axs.toList.filter (fun a => !allowed.contains a)
  if bad.isEmpty then
    logInfo m!"AXIOMS-OK {name} {axs.toList}"
  else
    throwError "AXIOMS-BAD {name} {bad}"
