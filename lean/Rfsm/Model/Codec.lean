/-
M-CODEC: the binary `.rfsm` format (properties C05, C18).

Transcribes, at the level of bytes (`List Nat`, every element < 256):

  * src/serializer/default_protocol_definitions.rs   the type nibbles and flag bits
  * src/serializer/default_protocol_writer.rs        `write_type_and_value`, `write_uint`,
        `write_usize`, `write_u8` (trait default), `write_str`, `write_boolean`,
        `write_option_string`, `write_data`, `close`
  * src/serializer/default_protocol_reader.rs        `error`, `read_additional_number_bytes`,
        `read_type_and_size`, `verify_number_type`, `verify_string_type`, `read_boolean`,
        `read_option_string`, `read_string`, `read_uint`, `read_usize`, `read_data`,
        `read_data_value_payload`, `has_error`
  * src/serializer/protocol_reader.rs                `read_u8`, `read_u16`, `read_u32` (casts)
  * src/serializer/fsm_writer.rs                     `FsmWriter::write` and every `write_*`
  * src/serializer/fsm_reader.rs                     `FsmReader::read` and every `read_*`
  * the persisted fields of `Fsm`, `State`, `Transition`, `Invoke`, `DoneData`, `Parameter`,
    `CommonContent` (src/fsm.rs), the nine executable content kinds (src/executable_content.rs)
    and `Data` (src/datamodel/mod.rs); `Data::is_empty`; `BindingType/HistoryType/
    TransitionType::{ordinal, from_ordinal}`; `i64`/`f64` `to_string`/`parse` as used by
    `write_data`/`read_data_value_payload`.

Conventions for machine arithmetic on `u8`/`u16`/`u32`/`u64` (the values are `Nat` here):
  `x & 0x0F` is `x % 16`, `x & 0xF0` is `x / 16 * 16` (x a byte), `t | n` with `t % 16 = 0` and
  `n < 16` is `t + n`, `x >> k` is `x / 2^k`, `(x << 8) | b` on `u64` is `(x * 256) % 2^64 + b`,
  `x as u8/u16/u32` is `x % 2^8 / 2^16 / 2^32`, `saturating_sub` is `Nat` subtraction.  Flag words are sums of distinct bits and tested with `/ bit % 2`.

What is a parameter rather than modelled: the iteration order of the four `HashMap`s
(`Fsm.transitions`, `Fsm.executableContent`, `State.data`, `Data::Map`): the model value carries
them as lists *in the order the writer iterates* and the reader returns lists in wire order.

Writer.  `FsmWriter` and `DefaultProtocolWriter::write_data` never look at the error flag, so what
they do is a fixed sequence of primitive protocol calls (`Op`): `opsFsm`.  `Op.bytes` is what one
call appends to an ideal sink.  The writer has no panic site (`write_str` hands the whole
`value.as_bytes()` to `write_all`; it used to slice `value[0..len & 0x0FFF]`).  `Rfsm.Model.Sink`
runs the same call sequence against short-writing and failing sinks.

Reader.  `DefaultProtocolReader` is a state machine over the remaining input with the sticky
`ok` flag and the `type_and_value` scratch fields (`type_id`, `number` survive between calls: a
first byte whose high nibble is 0, 2 or 0xF changes nothing, so the *previous* type and
number are seen again — transcribed).  Reader programs are a small free monad (`Prog`) over the
trait methods, so that facts true of every reader program are proved once.  A Rust panic is
recorded in `RState.panic` (first site wins) and the final result is `panic site`; what the
model computes after that point is never observable.
-/
namespace Rfsm.Codec

abbrev Str := List Nat

def two64 : Nat := 18446744073709551616
def two32 : Nat := 4294967296

/-! ## Abstract model values: the persisted fields only -/

inductive Data where
  | integer (v : Int)            -- Data::Integer(i64)
  | double (text : Str)          -- Data::Double(f64), carried as its `to_string()` text
  | string (s : Str)
  | boolean (b : Bool)
  | array (l : List Data)
  | map (l : List (Str × Data))  -- in iteration order
  | null
  | error (s : Str)
  | source (s : Str) (id : Nat)  -- SourceCode { source, source_id }
  | none
  deriving Repr, Inhabited

structure Param where
  name : Str
  expr : Str
  location : Str
  deriving Repr, Inhabited

structure CommonContent where
  content : Option Str
  contentExpr : Option Str
  deriving Repr, Inhabited

structure DoneData where
  content : Option CommonContent
  params : Option (List Param)
  deriving Repr, Inhabited

structure Invoke where
  invokeId : Str
  /-- written and read only when `invokeId` is empty -/
  parentStateName : Str
  docId : Nat
  srcExpr : Data
  src : Data
  typeExpr : Data
  typeName : Data
  externalIdLocation : Str
  autoforward : Bool
  finalize : Nat
  content : Option CommonContent
  params : Option (List Param)
  nameList : List Str
  deriving Repr, Inhabited

inductive TransitionType where
  | internal | external
  deriving Repr, DecidableEq, Inhabited

inductive HistoryType where
  | shallow | deep | none
  deriving Repr, DecidableEq, Inhabited

inductive Binding where
  | early | late
  deriving Repr, DecidableEq, Inhabited

structure Transition where
  id : Nat
  docId : Nat
  source : Nat
  target : List Nat
  events : List Str
  ttype : TransitionType
  wildcard : Bool
  cond : Data
  content : Nat
  deriving Repr, Inhabited

structure State where
  id : Nat
  docId : Nat
  name : Str
  historyType : HistoryType
  isParallel : Bool
  isFinal : Bool
  initial : Nat
  states : List Nat
  onentry : List Nat
  onexit : List Nat
  transitions : List Nat
  invoke : List Invoke
  history : List Nat
  data : List (Str × Data)
  parent : Nat
  donedata : Option DoneData
  deriving Repr, Inhabited

structure Send where
  name : Str
  target : Data
  targetExpr : Data
  content : Option CommonContent
  nameList : List Str
  nameLocation : Str
  params : Option (List Param)
  event : Data
  eventExpr : Data
  typeValue : Data
  typeExpr : Data
  delayMs : Nat
  delayExpr : Data
  deriving Repr, Inhabited

/-- the nine executable content kinds, with `get_type()` ids 0..8 -/
inductive Exec where
  | ifc (cond : Data) (content elseContent : Nat)                 -- 0 If
  | expression (content : Data)                                   -- 1 Expression
  | script (content : List Nat)                                   -- 2 Script
  | log (label : Str) (expr : Data)                               -- 3 Log
  | foreach (content : Nat) (index : Str) (array : Data) (item : Str) -- 4 ForEach
  | send (s : Send)                                               -- 5 SendParameters
  | raise (event : Str)                                           -- 6 Raise
  | cancel (sendId : Str) (sendIdExpr : Data)                     -- 7 Cancel
  | assign (expr location : Data)                                 -- 8 Assign
  deriving Repr, Inhabited

structure Fsm where
  name : Str
  datamodel : Str
  binding : Binding
  pseudoRoot : Nat
  script : Nat
  states : List State
  /-- `fsm.transitions.values()` in iteration order -/
  transitions : List Transition
  /-- `fsm.executableContent` in iteration order -/
  content : List (Nat × List Exec)
  deriving Repr, Inhabited

/-! ## Text forms of numbers (`to_string` / `parse`) -/

/-- decimal digits, most significant first; `fuel` ≥ `n` always suffices -/
def showNatF : Nat → Nat → Str
  | 0, n => [48 + n % 10]
  | fuel + 1, n => if n < 10 then [48 + n] else showNatF fuel (n / 10) ++ [48 + n % 10]

/-- `u64::to_string` -/
def showNat (n : Nat) : Str := showNatF n n

/-- `i64::to_string` -/
def showInt (v : Int) : Str :=
  if v < 0 then 45 :: showNat v.natAbs else showNat v.natAbs

def isDigit (c : Nat) : Bool := 48 ≤ c && c ≤ 57

/-- value of a digit string, `none` if some byte is not a digit (the empty string gives 0) -/
def digitsVal : Nat → Str → Option Nat
  | acc, [] => some acc
  | acc, c :: r => if isDigit c then digitsVal (acc * 10 + (c - 48)) r else none

def maxI64 : Nat := 9223372036854775807

/-- `str::parse::<i64>()`: `[+-]?[0-9]+` with the value in range -/
def parseI64 (s : Str) : Option Int :=
  match s with
  | [] => none
  | 43 :: r =>
    if r.isEmpty then none else
    match digitsVal 0 r with
    | some n => if n ≤ maxI64 then some (Int.ofNat n) else none
    | none => none
  | 45 :: r =>
    if r.isEmpty then none else
    match digitsVal 0 r with
    | some n => if n ≤ maxI64 + 1 then some (- Int.ofNat n) else none
    | none => none
  | _ =>
    match digitsVal 0 s with
    | some n => if n ≤ maxI64 then some (Int.ofNat n) else none
    | none => none

def dropDigits : Str → Str
  | [] => []
  | c :: r => if isDigit c then dropDigits r else c :: r

def lower (c : Nat) : Nat := if 65 ≤ c ∧ c ≤ 90 then c + 32 else c

/-- acceptance of `str::parse::<f64>()` (core::num::dec2flt): an optional sign, then either
    `D* ('.' D*)?` with at least one digit and an optional exponent `[eE][+-]?D+`, or one of
    `nan`, `inf`, `infinity` in any case. Only acceptance is modelled; the value is carried as text. -/
def isF64Text (s : Str) : Bool :=
  match s with
  | [] => false
  | c :: r =>
    let body := if c = 45 ∨ c = 43 then r else s
    if body.isEmpty then false else
    let low := body.map lower
    if low = [110, 97, 110] ∨ low = [105, 110, 102] ∨ low = [105, 110, 102, 105, 110, 105, 116, 121] then true
    else
      let a := dropDigits body
      let nInt := body.length - a.length
      let (b, nFrac) :=
        match a with
        | 46 :: a' => let b := dropDigits a'; (b, a'.length - b.length)
        | _ => (a, 0)
      if nInt + nFrac = 0 then false else
      match b with
      | [] => true
      | e :: b' =>
        if e = 101 ∨ e = 69 then
          let b'' := match b' with
            | 43 :: x => x
            | 45 :: x => x
            | _ => b'
          match b'' with
          | [] => false
          | d :: _ => isDigit d && (dropDigits b'').isEmpty
        else false

/-! ## UTF-8 (`std::str::from_utf8`, `str::is_char_boundary`) -/

def isCont (b : Nat) : Bool := 128 ≤ b && b ≤ 191

/-- `std::str::from_utf8(bytes).is_ok()` -/
def validUtf8 : List Nat → Bool
  | [] => true
  | b0 :: r =>
    if b0 < 128 then validUtf8 r
    else if 194 ≤ b0 ∧ b0 ≤ 223 then
      match r with
      | b1 :: r' => isCont b1 && validUtf8 r'
      | _ => false
    else if 224 ≤ b0 ∧ b0 ≤ 239 then
      match r with
      | b1 :: b2 :: r' =>
        (if b0 = 224 then 160 ≤ b1 && b1 ≤ 191
         else if b0 = 237 then 128 ≤ b1 && b1 ≤ 159
         else isCont b1) && isCont b2 && validUtf8 r'
      | _ => false
    else if 240 ≤ b0 ∧ b0 ≤ 244 then
      match r with
      | b1 :: b2 :: b3 :: r' =>
        (if b0 = 240 then 144 ≤ b1 && b1 ≤ 191
         else if b0 = 244 then 128 ≤ b1 && b1 ≤ 143
         else isCont b1) && isCont b2 && isCont b3 && validUtf8 r'
      | _ => false
    else false

/-! ## The writer as a sequence of primitive protocol calls -/

/-- the bytes `write_type_and_value` emits after the first one:
    `while size > 0 { size = size.saturating_sub(8); write_u8((value >> size) as u8) }`
    (`fuel` ≥ the number of iterations; called with `fuel = size`) -/
def tvTail (v : Nat) : Nat → Nat → List Nat
  | 0, _ => []
  | fuel + 1, size =>
    if size = 0 then [] else (v / 2 ^ (size - 8)) % 256 :: tvTail v fuel (size - 8)

/-- the first nibble of `write_type_and_value` (`size` already reduced by 4):
    `if size >= 64 { 0 } else { ((value >> size) as u8) & 0x0F }` -/
def tvNibble (v size : Nat) : Nat := if size ≥ 64 then 0 else (v / 2 ^ size) % 16

/-- `write_type_and_value(type_id, value, size)` against a sink that accepts everything -/
def tvBytes (tid v size : Nat) : List Nat :=
  (tid + tvNibble v (size - 4)) :: tvTail v (size - 4) (size - 4)

inductive Op where
  /-- `write_type_and_value(type_id, value, size)` -/
  | tv (tid value size : Nat)
  /-- one `if self.ok { eval_result(self.writer.write_u8(b)) }` (`write_boolean`, the `None` arm of
      `write_option_string`) -/
  | byte (b : Nat)
  /-- `write_str(value)` -/
  | str (s : Str)
  /-- `close()` -/
  | flush
  deriving Repr, Inhabited

/-- header of `write_str`: 4 bit length, 12 bit length, or (4096 bytes and more) the type 0xE0 with
    the length as a 64 bit number in the 68 bit form -/
def strHeader (s : Str) : List Nat :=
  if s.length < 16 then tvBytes 0xC0 s.length 4
  else if s.length < 4096 then tvBytes 0xD0 s.length 12
  else tvBytes 0xE0 s.length 68

def Op.bytes : Op → List Nat
  | .tv tid v size => tvBytes tid v size
  | .byte b => [b]
  | .str s => strHeader s ++ s
  | .flush => []

/-- `write_uint` -/
def uintOp (v : Nat) : Op :=
  if v < 2 ^ 4 then .tv 0x30 v 4
  else if v < 2 ^ 12 then .tv 0x40 v 12
  else if v < 2 ^ 20 then .tv 0x50 v 20
  else if v < 2 ^ 28 then .tv 0x60 v 28
  else if v < 2 ^ 36 then .tv 0x70 v 36
  else if v < 2 ^ 44 then .tv 0x80 v 44
  else if v < 2 ^ 52 then .tv 0x90 v 52
  else if v < 2 ^ 60 then .tv 0xA0 v 60
  else .tv 0xB0 v 68

/-- `write_boolean` -/
def boolOp (b : Bool) : Op := .byte (if b then 0x1F else 0x10)

/-- `write_option_string` -/
def optStrOp : Option Str → Op
  | some s => .str s
  | none => .byte 0x10

/-- `Data::is_empty` -/
def Data.isEmpty : Data → Bool
  | .boolean _ | .integer _ | .double _ => false
  | .string s => s.isEmpty
  | .array l => l.isEmpty
  | .map l => l.isEmpty
  | .null => true
  | .error _ => true
  | .source s _ => s.isEmpty
  | .none => true

mutual
  /-- `write_data` -/
  def opsData : Data → List Op
    | .integer v => [uintOp 1, .str (showInt v)]
    | .double t => [uintOp 2, .str t]
    | .string s => [uintOp 3, .str s]
    | .boolean b => [uintOp 4, boolOp b]
    | .array l => uintOp 5 :: uintOp l.length :: opsDataList l
    | .map l => uintOp 6 :: uintOp l.length :: opsDataMap l
    | .error s => [uintOp 7, .str s]
    | .source s id => [uintOp 8, .str s, uintOp id]
    | .none => [uintOp 9]
    | .null => [uintOp 0]
  def opsDataList : List Data → List Op
    | [] => []
    | d :: r => opsData d ++ opsDataList r
  def opsDataMap : List (Str × Data) → List Op
    | [] => []
    | (k, d) :: r => .str k :: (opsData d ++ opsDataMap r)
end

def opsList {α} (f : α → List Op) (l : List α) : List Op :=
  uintOp l.length :: l.flatMap f

def opsIds (l : List Nat) : List Op := opsList (fun i => [uintOp i]) l

/-- `write_string_list` -/
def opsStrList (l : List Str) : List Op := opsList (fun s => [Op.str s]) l

/-- `write_data_map` -/
def opsDataPairs (l : List (Str × Data)) : List Op :=
  opsList (fun kv => Op.str kv.1 :: opsData kv.2) l

/-- `write_common_content` -/
def opsCommon (c : CommonContent) : List Op := [optStrOp c.content, optStrOp c.contentExpr]

/-- `write_parameter` -/
def opsParam (p : Param) : List Op := [.str p.name, .str p.expr, .str p.location]

/-- `write_parameters` -/
def opsParams : Option (List Param) → List Op
  | some ps => opsList opsParam ps
  | none => [uintOp 0]

/-- the `if let Some(cc) { write_boolean(true); write_common_content } else { write_boolean(false) }`
    pattern of `write_invoke`, `write_executable_content_send` and `write_done_data` -/
def opsOptCommon : Option CommonContent → List Op
  | some c => boolOp true :: opsCommon c
  | none => [boolOp false]

/-- `write_done_data` -/
def opsDoneData (d : DoneData) : List Op := opsOptCommon d.content ++ opsParams d.params

/-- `write_invoke` -/
def opsInvoke (i : Invoke) : List Op :=
  [Op.str i.invokeId] ++ (if i.invokeId.isEmpty then [Op.str i.parentStateName] else []) ++
  [uintOp i.docId] ++ opsData i.srcExpr ++ opsData i.src ++ opsData i.typeExpr ++ opsData i.typeName ++
  [Op.str i.externalIdLocation, boolOp i.autoforward, uintOp i.finalize] ++
  opsOptCommon i.content ++ opsParams i.params ++ opsStrList i.nameList

/-- `if state.donedata.is_some() { write_done_data(..) }` -/
def opsOptDoneData : Option DoneData → List Op
  | some d => opsDoneData d
  | none => []

def TransitionType.ordinal : TransitionType → Nat
  | .internal => 0
  | .external => 1

def HistoryType.ordinal : HistoryType → Nat
  | .shallow => 1
  | .deep => 2
  | .none => 0

def Binding.ordinal : Binding → Nat
  | .early => 1
  | .late => 2

def b2n (b : Bool) (bit : Nat) : Nat := if b then bit else 0

def transitionFlags (t : Transition) : Nat :=
  t.ttype.ordinal + b2n t.wildcard 2 + b2n (!t.cond.isEmpty) 4 + b2n (t.content != 0) 8

/-- `write_transition` -/
def opsTransition (t : Transition) : List Op :=
  [uintOp t.id, uintOp t.docId, uintOp t.source] ++ opsIds t.target ++ opsStrList t.events ++
  [uintOp (transitionFlags t)] ++
  (if !t.cond.isEmpty then opsData t.cond else []) ++
  (if t.content != 0 then [uintOp t.content] else [])

def stateFlags (s : State) : Nat :=
  s.historyType.ordinal + b2n (!s.onentry.isEmpty) 0x04 + b2n (!s.onexit.isEmpty) 0x08 +
  b2n (!s.states.isEmpty) 0x10 + b2n s.isFinal 0x20 + b2n s.isParallel 0x40 +
  b2n s.donedata.isSome 0x80 + b2n (!s.invoke.isEmpty) 0x100 + b2n (!s.data.isEmpty) 0x200 +
  b2n (!s.history.isEmpty) 0x400

/-- `write_state` -/
def opsState (s : State) : List Op :=
  [uintOp s.id, uintOp s.docId, Op.str s.name, uintOp (stateFlags s)] ++
  (if !s.states.isEmpty then uintOp s.initial :: opsIds s.states else []) ++
  (if !s.onentry.isEmpty then opsIds s.onentry else []) ++
  (if !s.onexit.isEmpty then opsIds s.onexit else []) ++
  opsIds s.transitions ++
  (if !s.invoke.isEmpty then opsList opsInvoke s.invoke else []) ++
  (if !s.history.isEmpty then opsIds s.history else []) ++
  (if !s.data.isEmpty then opsDataPairs s.data else []) ++
  [uintOp s.parent] ++ opsOptDoneData s.donedata

/-- `write_executable_content_send` -/
def opsSend (s : Send) : List Op :=
  [Op.str s.name] ++ opsData s.target ++ opsData s.targetExpr ++ opsOptCommon s.content ++
  opsStrList s.nameList ++ [Op.str s.nameLocation] ++ opsParams s.params ++
  opsData s.event ++ opsData s.eventExpr ++ opsData s.typeValue ++ opsData s.typeExpr ++
  [uintOp s.delayMs] ++ opsData s.delayExpr

/-- `write_executable_content` (type id, then the kind's fields) -/
def opsExec : Exec → List Op
  | .ifc c a b => [uintOp 0] ++ opsData c ++ [uintOp a, uintOp b]
  | .expression c => [uintOp 1] ++ opsData c
  | .script l => [uintOp 2] ++ opsIds l
  | .log label e => [uintOp 3, Op.str label] ++ opsData e
  | .foreach c idx arr item => [uintOp 4, uintOp c, Op.str idx] ++ opsData arr ++ [Op.str item]
  | .send s => [uintOp 5] ++ opsSend s
  | .raise e => [uintOp 6, Op.str e]
  | .cancel id e => [uintOp 7, Op.str id] ++ opsData e
  | .assign e l => [uintOp 8] ++ opsData e ++ opsData l

/-- `FSM_PROTOCOL_WRITER_VERSION` = `FSM_READER_VERSION` = "fsmW1.1" -/
def versionText : Str := [102, 115, 109, 87, 49, 46, 49]

/-- `FsmWriter::write` -/
def opsFsm (f : Fsm) : List Op :=
  [Op.str versionText, Op.str f.name, Op.str f.datamodel, uintOp f.binding.ordinal,
   uintOp f.pseudoRoot, uintOp f.script] ++
  opsList opsState f.states ++
  opsList opsTransition f.transitions ++
  opsList (fun (c : Nat × List Exec) => uintOp c.1 :: opsList opsExec c.2) f.content

/-- bytes appended to an ideal sink by a call sequence -/
def bytesOf (ops : List Op) : List Nat := ops.flatMap Op.bytes

/-- `FsmWriter::write` then `close` into a `Vec<u8>`: the image -/
def imageOf (f : Fsm) : List Nat := bytesOf (opsFsm f)

/-! ## The reader -/

inductive Site where
  /-- `read_executable_content`: "Unknown Executable Content: {}" -/
  | contentType (n : Nat)
  /-- not a Rust panic: the nesting fuel of the model's `readData` ran out -/
  | modelFuel
  deriving Repr, DecidableEq, Inhabited

structure RState where
  inp : List Nat
  ok : Bool
  tid : Nat
  num : Nat
  panic : Option Site
  deriving Repr, Inhabited

def RState.init (bytes : List Nat) : RState := ⟨bytes, true, 0, 0, none⟩

/-- `DefaultProtocolReader::error` -/
def RState.error (st : RState) : RState :=
  if st.ok then { st with ok := false, tid := 0, num := 0 } else st

def RState.setPanic (st : RState) (s : Site) : RState :=
  match st.panic with
  | some _ => st
  | none => { st with panic := some s }

/-- `read_additional_number_bytes(length)` -/
def readMore : Nat → RState → RState
  | 0, st => st
  | n + 1, st =>
    if st.ok then
      match st.inp with
      | b :: r => readMore n { st with inp := r, num := (st.num * 256) % two64 + b }
      | [] => readMore n st.error
    else st

/-- the three string arms of `read_type_and_size` after the length is known:
    `read_exact(&mut buffer[0..us])` resp. `take(us).read_to_end(..)` (both consume what is there and
    fail when that is less than `us`), `from_utf8` -/
def readStrPayload (us : Nat) (st : RState) : Str × RState :=
  if st.inp.length < us then ([], { st with inp := [] }.error)
  else
    let s := st.inp.take us
    let st := { st with inp := st.inp.drop us }
    if validUtf8 s then (s, st) else ([], st.error)

/-- `if self.ok { us = number; number = 0; take(us).read_to_end(..); from_utf8 }` of the 0xE0 arm -/
def longStrPayload (st : RState) : Str × RState :=
  if st.ok then readStrPayload st.num { st with num := 0 } else ([], st)

/-- the 0xE0 arm of `read_type_and_size` (first byte consumed): eight length bytes, then the payload -/
def readLongStr (st : RState) : Str × RState :=
  longStrPayload (readMore 8 { st with tid := 0xE0, num := 0 })

/-- `read_type_and_size`; returns the content of `type_and_value.string` afterwards -/
def readTypeAndSize (st : RState) : Str × RState :=
  if st.ok then
    match st.inp with
    | [] => ([], st.error)
    | val :: r =>
      let hi := val / 16 * 16
      let lo := val % 16
      let st := { st with inp := r }
      if hi = 0x10 then ([], { st with tid := val })
      else if 0x30 ≤ hi ∧ hi ≤ 0xB0 then
        ([], readMore ((hi - 0x30) / 16) { st with tid := hi, num := lo })
      else if hi = 0xC0 then readStrPayload lo { st with tid := 0xC0, num := 0 }
      else if hi = 0xD0 then
        match r with
        | [] => ([], { st with tid := 0xD0, num := 0 }.error)
        | b :: r' => readStrPayload (lo * 256 + b) { st with inp := r', tid := 0xD0, num := 0 }
      else if hi = 0xE0 then readLongStr st
      else ([], st)
  else ([], st)

/-- `verify_number_type` on the type id -/
def isNumTid (t : Nat) : Bool := 0x30 ≤ t && t ≤ 0xB0 && t % 16 == 0

/-- `read_uint` / `read_usize` -/
def readUIntS (st : RState) : Nat × RState :=
  let (_, st) := readTypeAndSize st
  if st.ok then
    if isNumTid st.tid then (st.num, st) else (0, st.error)
  else (0, st)

/-- `read_string` -/
def readStringS (st : RState) : Str × RState :=
  let (s, st) := readTypeAndSize st
  if st.ok then
    if st.tid = 0xC0 ∨ st.tid = 0xD0 ∨ st.tid = 0xE0 then (s, st) else ([], st.error)
  else ([], st)

/-- `read_boolean` -/
def readBoolS (st : RState) : Bool × RState :=
  if st.ok then
    match st.inp with
    | [] => (false, st.error)
    | b :: r =>
      let st := { st with inp := r }
      if b = 0x1F then (true, st) else if b = 0x10 then (false, st) else (false, st.error)
  else (false, st)

/-- `read_option_string` -/
def readOptStrS (st : RState) : Option Str × RState :=
  if st.ok then
    let (s, st) := readTypeAndSize st
    if st.tid = 0x10 then (none, st)
    else if st.tid = 0xE0 ∨ st.tid = 0xD0 ∨ st.tid = 0xC0 then (some s, st)
    else (none, st.error)
  else (none, st)

/-- the `ProtocolReader` methods the `FsmReader` is written in -/
inductive Prim : Type → Type where
  | bool : Prim Bool
  | optStr : Prim (Option Str)
  | str : Prim Str
  | uint : Prim Nat
  /-- `self.error(..)` (and `self.ok = false`) inside `read_data_value_payload` -/
  | fail : Prim Unit
  /-- `has_error()` -/
  | hasError : Prim Bool
  /-- a `panic!` -/
  | panic (s : Site) : Prim Unit

def Prim.run : Prim α → RState → α × RState
  | .bool, st => readBoolS st
  | .optStr, st => readOptStrS st
  | .str, st => readStringS st
  | .uint, st => readUIntS st
  | .fail, st => ((), st.error)
  | .hasError, st => (!st.ok, st)
  | .panic s, st => ((), st.setPanic s)

inductive Prog : Type → Type 1 where
  | pure : α → Prog α
  | prim : Prim α → Prog α
  | bind : Prog α → (α → Prog β) → Prog β

instance : Monad Prog where
  pure := Prog.pure
  bind := Prog.bind

def Prog.run : Prog α → RState → α × RState
  | .pure a, st => (a, st)
  | .prim p, st => p.run st
  | .bind p f, st =>
    let r := p.run st
    (f r.1).run r.2

def pBool : Prog Bool := .prim .bool
def pOptStr : Prog (Option Str) := .prim .optStr
def pStr : Prog Str := .prim .str
def pUInt : Prog Nat := .prim .uint
def pFail : Prog Unit := .prim .fail
def pHasError : Prog Bool := .prim .hasError
def pPanic (s : Site) : Prog Unit := .prim (.panic s)

/-- `read_u8` (trait default: `read_uint() as u8`) -/
def pU8 : Prog Nat := do let u ← pUInt; pure (u % 256)
/-- `read_u16` -/
def pU16 : Prog Nat := do let u ← pUInt; pure (u % 65536)
/-- `read_state_id` / `read_doc_id` / `read_transition_id` / `read_executable_content_id`:
    `read_uint() as u32` -/
def pId : Prog Nat := do let u ← pUInt; pure (u % two32)

/-- `for _ in 0..n { v.push(p) }` -/
def readN {α} : Nat → Prog α → Prog (List α)
  | 0, _ => pure []
  | n + 1, p => do
    let a ← p
    let r ← readN n p
    pure (a :: r)

/-- `let len = read_usize(); for _ in 0..len { push(p) }` -/
def readList {α} (p : Prog α) : Prog (List α) := do
  let len ← pUInt
  readN len p

/-- nesting fuel of `readData`; the Rust recursion is bounded by the thread's stack only -/
def dataFuel : Nat := 1024

/-- `read_data` = `read_u8` then `read_data_value_payload` -/
def readDataF : Nat → Prog Data
  | 0 => do pPanic .modelFuel; pure .null
  | fuel + 1 => do
    let what ← pU8
    match what with
    | 0 => pure .null
    | 1 => do
      let rv ← pStr
      match parseI64 rv with
      | some v => pure (.integer v)
      | none => do pFail; pure .null
    | 2 => do
      let rv ← pStr
      if isF64Text rv then pure (.double rv) else do pFail; pure .null
    | 3 => do let s ← pStr; pure (.string s)
    | 4 => do let b ← pBool; pure (.boolean b)
    | 5 => do
      let len ← pUInt
      let l ← readN len (readDataF fuel)
      pure (.array l)
    | 6 => do
      let len ← pUInt
      let l ← readN len (do let k ← pStr; let v ← readDataF fuel; pure (k, v))
      pure (.map l)
    | 7 => do let k ← pStr; pure (.error k)
    | 8 => do let k ← pStr; let id ← pUInt; pure (.source k id)
    | 9 => pure .none
    | _ => do pFail; pure .null

def readData : Prog Data := readDataF dataFuel

/-- `read_data_map` -/
def readDataPairs : Prog (List (Str × Data)) :=
  readList (do let k ← pStr; let v ← readData; pure (k, v))

/-- `read_common_content` -/
def readCommon : Prog CommonContent := do
  let c ← pOptStr
  let e ← pOptStr
  pure ⟨c, e⟩

/-- `read_parameter` -/
def readParam : Prog Param := do
  let n ← pStr
  let e ← pStr
  let l ← pStr
  pure ⟨n, e, l⟩

/-- `read_parameters` -/
def readParams : Prog (Option (List Param)) := do
  let len ← pUInt
  if len = 0 then pure none
  else do
    let ps ← readN len readParam
    pure (some ps)

/-- `if read_boolean() { Some(read_common_content) } else { None }` -/
def readOptCommon : Prog (Option CommonContent) := do
  let b ← pBool
  if b then do let c ← readCommon; pure (some c) else pure none

/-- `read_done_data` -/
def readDoneData : Prog DoneData := do
  let c ← readOptCommon
  let ps ← readParams
  pure ⟨c, ps⟩

/-- `read_string_list` -/
def readStrList : Prog (List Str) := readList pStr

/-- `read_invoke` (on a fresh `Invoke::new()`, whose `parent_state_name` is empty) -/
def readInvoke : Prog Invoke := do
  let invokeId ← pStr
  let parentStateName ← (if invokeId.isEmpty then pStr else pure [])
  let docId ← pId
  let srcExpr ← readData
  let src ← readData
  let typeExpr ← readData
  let typeName ← readData
  let externalIdLocation ← pStr
  let autoforward ← pBool
  let finalize ← pId
  let content ← readOptCommon
  let params ← readParams
  let nameList ← readStrList
  pure { invokeId, parentStateName, docId, srcExpr, src, typeExpr, typeName, externalIdLocation,
         autoforward, finalize, content, params, nameList }

/-- `read_transition` -/
def readTransition : Prog Transition := do
  let id ← pId
  let docId ← pId
  let source ← pId
  let target ← readList pId
  let events ← readList pStr
  let flags ← pU8
  let cond ← (if flags / 4 % 2 = 1 then readData else pure Data.null)
  let content ← (if flags / 8 % 2 = 1 then pId else pure 0)
  pure { id, docId, source, target, events,
         ttype := if flags % 2 = 0 then .internal else .external,
         wildcard := flags / 2 % 2 = 1, cond, content }

def HistoryType.fromOrdinal : Nat → HistoryType
  | 1 => .shallow
  | 2 => .deep
  | _ => .none

/-- `read_state` (on a fresh `State::new("")`) -/
def readState : Prog State := do
  let id ← pId
  let docId ← pId
  let name ← pStr
  let flags ← pU16
  let (initial, states) ← (if flags / 0x10 % 2 = 1 then do
      let i ← pId
      let l ← readList pId
      pure (i, l)
    else pure (0, []))
  let onentry ← (if flags / 0x04 % 2 = 1 then readList pId else pure [])
  let onexit ← (if flags / 0x08 % 2 = 1 then readList pId else pure [])
  let transitions ← readList pId
  let invoke ← (if flags / 0x100 % 2 = 1 then readList readInvoke else pure [])
  let history ← (if flags / 0x400 % 2 = 1 then readList pId else pure [])
  let data ← (if flags / 0x200 % 2 = 1 then readDataPairs else pure [])
  let parent ← pId
  let donedata ← (if flags / 0x80 % 2 = 1 then do let d ← readDoneData; pure (some d) else pure none)
  pure { id, docId, name, historyType := HistoryType.fromOrdinal (flags % 4),
         isParallel := flags / 0x40 % 2 = 1, isFinal := flags / 0x20 % 2 = 1,
         initial, states, onentry, onexit, transitions, invoke, history, data, parent, donedata }

/-- `read_executable_content_send` -/
def readSend : Prog Send := do
  let name ← pStr
  let target ← readData
  let targetExpr ← readData
  let content ← readOptCommon
  let nameList ← readStrList
  let nameLocation ← pStr
  let params ← readParams
  let event ← readData
  let eventExpr ← readData
  let typeValue ← readData
  let typeExpr ← readData
  let delayMs ← pUInt
  let delayExpr ← readData
  pure { name, target, targetExpr, content, nameList, nameLocation, params, event, eventExpr,
         typeValue, typeExpr, delayMs, delayExpr }

/-- `read_executable_content` -/
def readExec : Prog Exec := do
  let ty ← pU8
  match ty with
  | 0 => do let c ← readData; let a ← pId; let b ← pId; pure (.ifc c a b)
  | 1 => do let c ← readData; pure (.expression c)
  | 2 => do let l ← readList pId; pure (.script l)
  | 3 => do let label ← pStr; let e ← readData; pure (.log label e)
  | 4 => do
    let c ← pId
    let idx ← pStr
    let arr ← readData
    let item ← pStr
    pure (.foreach c idx arr item)
  | 5 => do let s ← readSend; pure (.send s)
  | 6 => do let e ← pStr; pure (.raise e)
  | 7 => do let id ← pStr; let e ← readData; pure (.cancel id e)
  | 8 => do let e ← readData; let l ← readData; pure (.assign e l)
  | n => do pPanic (.contentType n); pure (.raise [])

inductive ReadResult where
  | ok (f : Fsm)
  /-- `Err("Can't read")` -/
  | errCantRead
  /-- `Err("Version mismatch: ..")` -/
  | errVersion (got : Str)
  | panic (s : Site)
  deriving Repr

/-- the part of `FsmReader::read` after the binding ordinal has been accepted -/
def readFsmRest (name datamodel : Str) (binding : Binding) : Prog Fsm := do
  let pseudoRoot ← pId
  let script ← pId
  let states ← readList readState
  let transitions ← readList readTransition
  let content ← readList (do
    let cid ← pId
    let l ← readList readExec
    pure (cid, l))
  pure { name, datamodel, binding, pseudoRoot, script, states, transitions, content }

/-- `BindingType::from_ordinal` on the ordinals that `FsmReader::read` lets through -/
def Binding.fromOrdinal : Nat → Option Binding
  | 1 => some .early
  | 2 => some .late
  | _ => none

/-- `FsmReader::read`: `has_error()` is consulted after the binding ordinal was read (an error or an
    unknown ordinal is `Err("Can't read")`, `from_ordinal` is not reached) and again before `Ok` -/
def readFsmProg : Prog ReadResult := do
  let version ← pStr
  if version = versionText then do
    let name ← pStr
    let datamodel ← pStr
    let ord ← pU8
    let e ← pHasError
    match (if e then none else Binding.fromOrdinal ord) with
    | none => pure .errCantRead
    | some binding => do
      let f ← readFsmRest name datamodel binding
      let e2 ← pHasError
      if e2 then pure .errCantRead else pure (.ok f)
  else do
    let e ← pHasError
    if e then pure .errCantRead else pure (.errVersion version)

/-- `FsmReader::read` on a byte slice, together with the reader's `has_error()` afterwards
    (meaningless after a panic) -/
def readImageFull (bytes : List Nat) : ReadResult × Bool :=
  let r := readFsmProg.run (RState.init bytes)
  match r.2.panic with
  | some s => (.panic s, !r.2.ok)
  | none => (r.1, !r.2.ok)

def readImage (bytes : List Nat) : ReadResult := (readImageFull bytes).1

end Rfsm.Codec
