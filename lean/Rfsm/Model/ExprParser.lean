import Rfsm.Model.ExprLexer
/-
M-EXPR, part 2: the AST and the stack parser of the rfsm-expression language.

Transcribes `/repo/src/expression_engine/parser.rs`:
  `ExpressionParser::{parse, parse_sub_expression, parse_argument_list, parse_member_list,
   fold_stack_at, stack_to_expression}` and the node kinds of
  `/repo/src/expression_engine/expressions.rs` (`Expression*` structs = constructors of `Expr`).

* The parser stack (`Vec<ExpressionParserItem>`) is a `List Item` in the same order (push = append).
* `stack_to_expression` picks, among the operators on the stack, the one with the *smallest*
  priority number; among equal ones the *first* for the binary operators and the *last* for `!`,
  `=` and `?=` (`prio < best_idx_prio || (right_to_left && prio == best_idx_prio)`: `better`),
  and the first `.` (`2 < best_idx_prio`).  It folds that operator with its two neighbours and
  recurses.  So equal-priority binary operators group to the LEFT, assignments to the right
  (repaired; they all grouped to the right: finding P2 of DESIGN §5).
* `panic!("Internal error")` is the outcome `PRes.panic`.  `PRes.livelock` is the outcome of the
  parser loop when a token is delivered without the input getting shorter and the loop goes on
  (an operator): `Rfsm.Proofs.ExprParserLemmas` proves it unreachable since `read_operator` no longer
  un-reads at the end of the text.
* Recursion is structural on `fuel`; `Rfsm.Proofs.ExprParserLemmas` proves that the fuel `parse` passes
  is sufficient (`outOfFuel` is never the result).

Core Lean only.
-/
namespace Rfsm.Expr

/-- constants the parser can create (`ExpressionConstant` with `Data::{Null,String,Boolean,Integer,Double}`) -/
inductive Lit
  | int (i : Int)
  | dbl (text : Str)
  | str (s : Str)
  | bool (b : Bool)
  | null
  deriving DecidableEq, Repr, Inhabited

/-- the expression node kinds of `expressions.rs` -/
inductive Expr
  | const (l : Lit)
  | var (name : Str)
  | array (items : List Expr)
  | map (fields : List (Expr × Expr))
  | method (name : Str) (args : List Expr)
  | index (left idx : Expr)
  | member (left : Expr) (name : Str)
  | assign (left right : Expr)
  | assignUndef (left right : Expr)
  | op (o : Op) (left right : Expr)
  | not (right : Expr)
  | seq (es : List Expr)
  deriving Repr, Inhabited

/-- `ExpressionParserItem` -/
inductive Item
  | tok (t : Token)
  | ex (e : Expr)
  deriving Repr, Inhabited

/-- parser error kinds (error texts of parser.rs mapped to kinds) -/
inductive PErr
  | lex (e : LexErr)
  | unexpectedBracket (c : Ch)      -- "Unexpected '{}'"
  | indexArgCount                   -- "index operator '[]' allows only one argument"
  | internalAt (c : Ch)             -- "Internal Error at '{}'"
  | failedEvaluate                  -- "Failed to evaluate expression"
  | failedParse                     -- "Failed to parse"
  | failedAtOperator (o : Op)       -- "Failed to parse at operator '{:?}'"
  | failedAtSep (c : Ch)            -- "Failed to parse at '.'"
  | failedAtItem                    -- "Failed to parse at '{}'" (stack_to_expression, no operator)
  | memberListError                 -- "Error in member list"
  | missingValue                    -- "Missing value expression in member list"
  | argListError                    -- "Error in argument list"
  | missing (c : Ch)                -- "Missing '{}'"
  deriving DecidableEq, Repr, Inhabited

inductive PRes (α : Type)
  | ok (a : α)
  | err (e : PErr)
  | panic            -- `panic!("Internal error")` in stack_to_expression
  | livelock         -- the lexer re-delivers the same operator forever
  | outOfFuel
  deriving Repr, Inhabited

/-- the priority table of `stack_to_expression` -/
def prio : Op → Nat
  | .not => 3
  | .and => 5 | .multiply => 5 | .divide => 5 | .modulus => 5
  | .or => 6 | .plus => 6 | .minus => 6
  | .less => 9 | .lessEqual => 9 | .greater => 9 | .greaterEqual => 9
  | .equal => 10 | .notEqual => 10
  | .assign => 16 | .assignUndefined => 16

/-- `right_to_left` of `stack_to_expression`: `!` and the assignments -/
def rightToLeft (o : Op) : Bool := o == .not || o == .assign || o == .assignUndefined

/-- `prio < best_idx_prio || (right_to_left && prio == best_idx_prio)` -/
def better (o : Op) (bp : Nat) : Bool := decide (prio o < bp) || (rightToLeft o && prio o == bp)

/-- first `while` loop of `stack_to_expression`: identifiers become variables, the best operator
is located.  `none` = `panic!("Internal error")`. -/
def scan : List Item → Nat → Nat → Nat → Option (List Item × Nat × Nat)
  | [], _, bi, bp => some ([], bi, bp)
  | it :: rest, si, bi, bp =>
    match it with
    | .ex e => (scan rest (si + 1) bi bp).map fun (r, i, p) => (.ex e :: r, i, p)
    | .tok (.identifier id) =>
      (scan rest (si + 1) bi bp).map fun (r, i, p) => (.ex (.var id) :: r, i, p)
    | .tok (.separator c) =>
      if c == 46 then
        let (bi', bp') := if 2 < bp then (si, 2) else (bi, bp)
        (scan rest (si + 1) bi' bp').map fun (r, i, p) => (.tok (.separator c) :: r, i, p)
      else none
    | .tok (.operator o) =>
      let (bi', bp') := if better o bp then (si, prio o) else (bi, bp)
      (scan rest (si + 1) bi' bp').map fun (r, i, p) => (.tok (.operator o) :: r, i, p)
    | .tok _ => none

/-- `fold_stack_at`; `none` = returned `false` (the caller then fails) -/
def foldAt (stack : List Item) (idx : Nat) (f : Expr → Expr → Option Expr) : Option (List Item) :=
  if 0 < idx ∧ idx + 1 < stack.length then
    match stack[idx - 1]?, stack[idx + 1]? with
    | some (.ex le), some (.ex re) =>
      match f le re with
      | some e => some (stack.take (idx - 1) ++ .ex e :: stack.drop (idx + 2))
      | none => none
    | _, _ => none
  else none

/-- the closure passed to `fold_stack_at` for `.` -/
def foldMember (le re : Expr) : Option Expr :=
  match re with
  | .var name => some (.member le name)
  | .method m args => some (.method m (le :: args))
  | _ => none

/-- node built for a binary operator token -/
def mkBinary (o : Op) (le re : Expr) : Expr :=
  match o with
  | .assign => .assign le re
  | .assignUndefined => .assignUndef le re
  | o => .op o le re

inductive SRes
  | ok (e : Option Expr) (rest : List Item)
  | err (e : PErr)
  | panic
  | outOfFuel
  deriving Repr, Inhabited

/-- `stack_to_expression`; returns the expression and what is left on the stack -/
def stackToExpr : Nat → List Item → SRes
  | 0, _ => .outOfFuel
  | fuel + 1, stack =>
    if stack.isEmpty then .ok none [] else
    match scan stack 0 0 255 with
    | none => .panic
    | some (stack, bi, bp) =>
      if bp < 255 then
        match stack[bi]? with
        | some (.tok (.operator .not)) =>
          if bi + 1 < stack.length then
            match stack[bi + 1]? with
            | some (.ex re) => stackToExpr fuel (stack.take bi ++ .ex (.not re) :: stack.drop (bi + 2))
            | _ => .err (.failedAtOperator .not)
          else .err (.failedAtOperator .not)
        | some (.tok (.operator o)) =>
          match foldAt stack bi (fun le re => some (mkBinary o le re)) with
          | some stack' => stackToExpr fuel stack'
          | none => .err (.failedAtOperator o)
        | some (.tok (.separator c)) =>
          match foldAt stack bi foldMember with
          | some stack' => stackToExpr fuel stack'
          | none => .err (.failedAtSep c)
        | _ => .err .failedParse
      else
        match stack with
        | .ex e :: rest => .ok (some e) rest
        | _ => .err .failedAtItem

def stackFuel (stack : List Item) : Nat := stack.length + 1

/-- the last lines of `parse_sub_expression`: nothing, the single expression, or a sequence -/
def wrapExprs (stop : Ch) (rest : Str) : List Expr → PRes (Ch × Option Expr × Str)
  | [] => .ok (stop, none, rest)
  | [e] => .ok (stop, some e, rest)
  | es => .ok (stop, some (.seq es), rest)

/-- `if let Some(e) = … { expressions.push(e) }` -/
def addOpt (exprs : List Expr) : Option Expr → List Expr
  | some e => exprs ++ [e]
  | none => exprs

/-- end of `parse_sub_expression` (after the token loop) -/
def finishSub (stop : Ch) (rest : Str) (exprs : List Expr) (stack : List Item) :
    PRes (Ch × Option Expr × Str) :=
  match stackToExpr (stackFuel stack) stack with
  | .panic => .panic
  | .outOfFuel => .outOfFuel
  | .err e => .err e
  | .ok e stack' =>
    if stack'.isEmpty then wrapExprs stop rest (addOpt exprs e) else .err .failedEvaluate

def pushOpt (stack : List Item) : Option Expr → List Item
  | none => stack
  | some e => stack ++ [.ex e]

mutual

/-- the token loop of `parse_sub_expression` -/
def parseSub : Nat → List Ch → Str → List Expr → List Item → PRes (Ch × Option Expr × Str)
  | 0, _, _, _, _ => .outOfFuel
  | fuel + 1, stops, inp, exprs, stack =>
    match nextToken stops inp with
    | (.eoe, rest) => finishSub 0 rest exprs stack
    | (.null, rest) => parseSub fuel stops rest exprs (stack ++ [.ex (.const .null)])
    | (.tstring s, rest) => parseSub fuel stops rest exprs (stack ++ [.ex (.const (.str s))])
    | (.boolean b, rest) => parseSub fuel stops rest exprs (stack ++ [.ex (.const (.bool b))])
    | (.int i, rest) => parseSub fuel stops rest exprs (stack ++ [.ex (.const (.int i))])
    | (.dbl t, rest) => parseSub fuel stops rest exprs (stack ++ [.ex (.const (.dbl t))])
    | (.identifier id, rest) => parseSub fuel stops rest exprs (stack ++ [.tok (.identifier id)])
    | (.operator o, rest) =>
      if inp.length ≤ rest.length then .livelock
      else parseSub fuel stops rest exprs (stack ++ [.tok (.operator o)])
    | (.bracket br, rest) =>
      if br == 40 then
        match stack.getLast? with
        | none =>
          match parseSub fuel [41] rest [] [] with
          | .ok (_, se, rest') => parseSub fuel stops rest' exprs (pushOpt stack.dropLast se)
          | .err e => .err e | .panic => .panic | .livelock => .livelock | .outOfFuel => .outOfFuel
        | some (.tok (.identifier id)) =>
          match parseArgs fuel 41 rest [] with
          | .ok (v, rest') => parseSub fuel stops rest' exprs (stack.dropLast ++ [.ex (.method id v)])
          | .err e => .err e | .panic => .panic | .livelock => .livelock | .outOfFuel => .outOfFuel
        | some (.tok (.operator _)) =>
          match parseSub fuel [41] rest [] [] with
          | .ok (_, se, rest') => parseSub fuel stops rest' exprs (pushOpt stack se)
          | .err e => .err e | .panic => .panic | .livelock => .livelock | .outOfFuel => .outOfFuel
        | some (.tok (.error _)) => parseSub fuel stops rest exprs stack.dropLast
        | some (.tok .eoe) => parseSub fuel stops rest exprs stack.dropLast
        | some (.tok .exprSep) => parseSub fuel stops rest exprs stack.dropLast
        | some (.tok _) => .err (.unexpectedBracket br)
        | some (.ex _) => .err (.unexpectedBracket br)
      else if br == 91 then
        match stack.getLast? with
        | none =>
          match parseArgs fuel 93 rest [] with
          | .ok (v, rest') => parseSub fuel stops rest' exprs (stack.dropLast ++ [.ex (.array v)])
          | .err e => .err e | .panic => .panic | .livelock => .livelock | .outOfFuel => .outOfFuel
        | some (.tok (.identifier id)) =>
          match parseArgs fuel 93 rest [] with
          | .ok ([a], rest') =>
            parseSub fuel stops rest' exprs (stack.dropLast ++ [.ex (.index (.var id) a)])
          | .ok (_, _) => .err .indexArgCount
          | .err e => .err e | .panic => .panic | .livelock => .livelock | .outOfFuel => .outOfFuel
        | some (.tok (.operator _)) =>
          match parseArgs fuel 93 rest [] with
          | .ok (v, rest') => parseSub fuel stops rest' exprs (stack ++ [.ex (.array v)])
          | .err e => .err e | .panic => .panic | .livelock => .livelock | .outOfFuel => .outOfFuel
        | some (.tok .null) => .err (.unexpectedBracket br)
        | some (.tok (.separator _)) => .err (.unexpectedBracket br)
        | some (.tok (.bracket _)) => .err (.unexpectedBracket br)
        | some (.tok (.boolean _)) => .err (.unexpectedBracket br)
        | some (.tok (.tstring _)) => .err (.unexpectedBracket br)
        | some (.tok (.int _)) => .err (.unexpectedBracket br)
        | some (.tok (.dbl _)) => .err (.unexpectedBracket br)
        | some (.tok _) => .err (.internalAt br)
        | some (.ex e) =>
          match parseArgs fuel 93 rest [] with
          | .ok ([a], rest') => parseSub fuel stops rest' exprs (stack.dropLast ++ [.ex (.index e a)])
          | .ok (_, _) => .err .indexArgCount
          | .err e => .err e | .panic => .panic | .livelock => .livelock | .outOfFuel => .outOfFuel
      else if br == 123 then
        match parseMembers fuel 125 rest [] with
        | .ok (v, rest') => parseSub fuel stops rest' exprs (stack ++ [.ex (.map v)])
        | .err e => .err e | .panic => .panic | .livelock => .livelock | .outOfFuel => .outOfFuel
      else if stops.contains br then finishSub br rest exprs stack
      else .err (.unexpectedBracket br)
    | (.separator sep, rest) =>
      if stops.contains sep then finishSub sep rest exprs stack
      else if sep == 46 then parseSub fuel stops rest exprs (stack ++ [.tok (.separator 46)])
      else parseSub fuel stops rest exprs stack
    | (.exprSep, rest) =>
      match stackToExpr (stackFuel stack) stack with
      | .panic => .panic
      | .outOfFuel => .outOfFuel
      | .err e => .err e
      | .ok e stack' =>
        if stack'.isEmpty then parseSub fuel stops rest (addOpt exprs e) []
        else .err .failedEvaluate
    | (.error e, _) => .err (.lex e)

/-- `parse_argument_list` -/
def parseArgs : Nat → Ch → Str → List Expr → PRes (List Expr × Str)
  | 0, _, _, _ => .outOfFuel
  | fuel + 1, stop, inp, acc =>
    match parseSub fuel [44, stop] inp [] [] with
    | .ok (_, none, rest) => if acc.isEmpty then .ok (acc, rest) else .err .argListError
    | .ok (stopc, some e, rest) =>
      if stopc == stop then .ok (acc ++ [e], rest)
      else if stopc == 0 then .err (.missing stop)
      else parseArgs fuel stop rest (acc ++ [e])
    | .err e => .err e | .panic => .panic | .livelock => .livelock | .outOfFuel => .outOfFuel

/-- `parse_member_list` -/
def parseMembers : Nat → Ch → Str → List (Expr × Expr) → PRes (List (Expr × Expr) × Str)
  | 0, _, _, _ => .outOfFuel
  | fuel + 1, stop, inp, acc =>
    match parseSub fuel [58, stop] inp [] [] with
    | .ok (_, none, rest) => if acc.isEmpty then .ok (acc, rest) else .err .memberListError
    | .ok (_, some k, rest) =>
      match parseSub fuel [44, stop] rest [] [] with
      | .ok (_, none, _) => .err .missingValue
      | .ok (stopv, some v, rest') =>
        if stopv == stop then .ok (acc ++ [(k, v)], rest')
        else if stopv == 0 then .err (.missing stop)
        else parseMembers fuel stop rest' (acc ++ [(k, v)])
      | .err e => .err e | .panic => .panic | .livelock => .livelock | .outOfFuel => .outOfFuel
    | .err e => .err e | .panic => .panic | .livelock => .livelock | .outOfFuel => .outOfFuel

end

def parseFuel (text : Str) : Nat := 2 * text.length + 4

/-- `ExpressionParser::parse` -/
def parse (text : Str) : PRes Expr :=
  match parseSub (parseFuel text) [0] text [] [] with
  | .ok (_, none, _) => .err .failedParse
  | .ok (_, some e, _) => .ok e
  | .err e => .err e | .panic => .panic | .livelock => .livelock | .outOfFuel => .outOfFuel

end Rfsm.Expr
