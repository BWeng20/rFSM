/-!
Decimal text of a natural number, once: `digits` writes it, `value` reads it.  The Codec and the Route
model transcribe `to_string` / `parse` by a pair of this shape, prove it equal to the one here
(`showNatF_eq`, `showNat_eq`, `digitsVal_eq`) and cite the facts below; Http's pair has another shape (an
accumulator over bytes, a `10 ^ length` formula) and keeps its own proof.  Core Lean only, no model import.
-/
namespace Rfsm.Decimal

/-- the ASCII digits of `n`, most significant first; `fuel ≥ n` always suffices -/
def digits : Nat → Nat → List Nat
  | 0, n => [48 + n % 10]
  | fuel + 1, n => if n < 10 then [48 + n] else digits fuel (n / 10) ++ [48 + n % 10]

/-- the value of a digit string read from the left with `acc` in hand; `none` on a non-digit -/
def value : Nat → List Nat → Option Nat
  | acc, [] => some acc
  | acc, c :: r => if 48 ≤ c ∧ c ≤ 57 then value (acc * 10 + (c - 48)) r else none

theorem digits_isDigit (fuel n : Nat) : ∀ c ∈ digits fuel n, 48 ≤ c ∧ c ≤ 57 := by
  induction fuel generalizing n with
  | zero => simp [digits]; omega
  | succ fuel ih =>
    unfold digits
    split
    · simp; omega
    · intro c hc
      rcases List.mem_append.1 hc with h | h
      · exact ih _ c h
      · simp at h; omega

theorem digits_ne_nil (fuel n : Nat) : digits fuel n ≠ [] := by
  cases fuel <;> simp [digits]
  split <;> simp

theorem value_snoc (acc : Nat) (xs : List Nat) {d : Nat} (hd : d < 10) :
    value acc (xs ++ [48 + d]) = (value acc xs).map (· * 10 + d) := by
  induction xs generalizing acc with
  | nil => simp [value]; omega
  | cons x xs ih =>
    simp only [List.cons_append, value]
    split
    · exact ih _
    · rfl

theorem value_digits {fuel n : Nat} (h : n ≤ fuel) : value 0 (digits fuel n) = some n := by
  induction fuel generalizing n with
  | zero =>
    obtain rfl : n = 0 := by omega
    simp [digits, value]
  | succ fuel ih =>
    unfold digits
    split
    · simp [value]; omega
    · rw [value_snoc _ _ (Nat.mod_lt _ (by omega)), ih (by omega)]
      simp only [Option.map_some, Option.some.injEq]
      omega

theorem digits_injective {n m : Nat} (h : digits n n = digits m m) : n = m := by
  have := value_digits (Nat.le_refl n)
  rw [h, value_digits (Nat.le_refl m)] at this
  exact (Option.some.inj this).symm

theorem digits_length (fuel : Nat) {n k : Nat} (hk : 1 ≤ k) (h : n < 10 ^ k) :
    (digits fuel n).length ≤ k := by
  induction fuel generalizing n k with
  | zero => simp [digits]; omega
  | succ fuel ih =>
    unfold digits
    split
    · simp; omega
    · rename_i h1
      match k, hk with
      | 1, _ => omega
      | k + 2, _ =>
        have : n / 10 < 10 ^ (k + 1) := by
          rw [Nat.div_lt_iff_lt_mul (by omega)]
          rwa [Nat.pow_succ] at h
        have := ih (k := k + 1) (by omega) this
        simp; omega

end Rfsm.Decimal
