import Rfsm.Model.ReaderSpec
/-!
C04 (c), on views: the part of the state table that records nesting and document order (`V`) and the three
things the reader does to it — a reference to a state name (`vref`), the declaration of a state (`vdecl`: doc id
and parent are given *at the declaration*, whether or not the name had been referenced before), and the recursion
over a tree of states (`amT`).  Each of the three extends the table (`Ext S`), extensions compose, and what holds of a
subtree survives every extension that does not name its states (`GoodT.ext`): that is `amT_spec`, whatever the
transitions refer to.
-/
namespace Rfsm.Reader
open Rfsm.Descriptor (Str)

structure V where
  id : Nat
  name : Str
  parent : Nat
  docId : Nat
  kids : List Nat
  deriving DecidableEq, Repr

def vOf (s : State) : V := ⟨s.id, s.name, s.parent, s.docId, s.states⟩
def view (f : Fsm) : List V := f.states.map vOf

def vfind : List V → Str → Option Nat
  | [], _ => none
  | v :: r, n => if v.name = n then some v.id else vfind r n

/-- `get_or_create_state`: an unknown name is appended, without parent, doc id and children -/
def vref (vs : List V) (n : Str) : List V :=
  match vfind vs n with
  | some _ => vs
  | none => vs ++ [⟨vs.length + 1, n, 0, 0, []⟩]

def vget (vs : List V) (i : Nat) : Option V := if i = 0 then none else vs[i - 1]?

def vmod (vs : List V) (i : Nat) (g : V → V) : List V := if i = 0 then vs else modifyNth g vs (i - 1)

/-- `get_or_create_state_with_attributes`: doc id `d` and (if `p ≠ 0`) parent `p` for `n`, which joins the children
of `p` -/
def vdecl (vs : List V) (n : Str) (p d : Nat) : Nat × List V :=
  let vs1 := vref vs n
  let i := (vfind vs1 n).getD 0
  let vs2 := vmod vs1 i fun v => { v with docId := d, parent := if p ≠ 0 then p else v.parent }
  (i, if p ≠ 0 then vmod vs2 p fun v => { v with kids := if v.kids.contains i then v.kids else v.kids ++ [i] }
      else vs2)

/-- ids are positions -/
def IdsOk (vs : List V) : Prop := ∀ k v, vs[k]? = some v → v.id = k + 1

def SamePD (v v' : V) : Prop := v'.name = v.name ∧ v'.id = v.id ∧ v'.parent = v.parent ∧ v'.docId = v.docId

theorem modifyNth_get {α} (g : α → α) (l : List α) (k j : Nat) :
    (modifyNth g l k)[j]? = if j = k then l[j]?.map g else l[j]? := by
  induction l generalizing k j with
  | nil => simp [modifyNth]
  | cons x xs ih =>
    cases k with
    | zero => cases j <;> simp [modifyNth]
    | succ k =>
      cases j with
      | zero => simp [modifyNth]
      | succ j => simp [modifyNth, ih]

theorem modifyNth_length {α} (g : α → α) (l : List α) (k : Nat) : (modifyNth g l k).length = l.length := by
  induction l generalizing k with
  | nil => simp [modifyNth]
  | cons x xs ih => cases k <;> simp [modifyNth, ih]

theorem vget_vmod (vs : List V) (i j : Nat) (g : V → V) :
    vget (vmod vs i g) j = if j = i then (vget vs j).map g else vget vs j := by
  unfold vget vmod
  by_cases hj : j = 0
  · subst hj; by_cases hi : i = 0 <;> simp [hi]
  · by_cases hi : i = 0
    · subst hi; simp [hj]
    · simp only [hj, hi, if_false, modifyNth_get]
      by_cases h : j = i
      · subst h; simp
      · have : ¬ j - 1 = i - 1 := by omega
        simp [h, this]

theorem vfind_vmod (vs : List V) (i : Nat) (g : V → V) (hg : ∀ v, (g v).name = v.name ∧ (g v).id = v.id)
    (n : Str) : vfind (vmod vs i g) n = vfind vs n := by
  unfold vmod
  by_cases hi : i = 0
  · simp [hi]
  · simp only [hi, if_false]
    generalize i - 1 = k
    induction vs generalizing k with
    | nil => simp [modifyNth]
    | cons x xs ih =>
      cases k with
      | zero => simp [modifyNth, vfind, hg x]
      | succ k => simp [modifyNth, vfind, ih]

theorem vmod_length (vs : List V) (i : Nat) (g : V → V) : (vmod vs i g).length = vs.length := by
  unfold vmod; split <;> simp [modifyNth_length]

theorem vfind_append (vs : List V) (v : V) (n : Str) :
    vfind (vs ++ [v]) n = match vfind vs n with
      | some i => some i
      | none => if v.name = n then some v.id else none := by
  induction vs with
  | nil => simp [vfind]
  | cons x xs ih =>
    simp only [List.cons_append, vfind]
    split <;> simp_all

theorem vget_append (vs : List V) (w : V) (j : Nat) :
    vget (vs ++ [w]) j = if j = vs.length + 1 then some w else vget vs j := by
  unfold vget
  by_cases h0 : j = 0
  · simp [h0]
  · by_cases hlt : j - 1 < vs.length
    · simp [h0, List.getElem?_append_left hlt, show j ≠ vs.length + 1 by omega]
    · by_cases he : j = vs.length + 1
      · simp [he]
      · simp only [h0, he, if_false]
        rw [List.getElem?_eq_none (by simp; omega), List.getElem?_eq_none (by omega)]

theorem vget_of_le {vs : List V} {p : Nat} (h0 : p ≠ 0) (hle : p ≤ vs.length) : ∃ v, vget vs p = some v := by
  unfold vget
  simp only [h0, if_false]
  exact ⟨vs[p - 1]'(by omega), by simp⟩

theorem le_of_vget {vs : List V} {p : Nat} {v : V} (h : vget vs p = some v) : p ≠ 0 ∧ p ≤ vs.length := by
  unfold vget at h
  by_cases h0 : p = 0
  · simp [h0] at h
  · simp only [h0, if_false] at h
    have := (List.getElem?_eq_some_iff.1 h).1
    exact ⟨h0, by omega⟩

theorem mem_of_vget {vs : List V} {j : Nat} {v : V} (h : vget vs j = some v) : v ∈ vs := by
  unfold vget at h
  split at h
  · simp at h
  · exact List.mem_of_getElem? h

theorem vget_append_left {vs : List V} {j : Nat} {v : V} (w : V) (h : vget vs j = some v) :
    vget (vs ++ [w]) j = some v := by
  rw [vget_append, if_neg (by have := (le_of_vget h).2; omega), h]

theorem vfind_mem {vs : List V} {n : Str} {i : Nat} (h : vfind vs n = some i) :
    ∃ v ∈ vs, v.name = n ∧ v.id = i := by
  induction vs with
  | nil => simp [vfind] at h
  | cons x xs ih =>
    simp only [vfind] at h
    split at h
    · exact ⟨x, by simp, ‹_›, by simpa using h⟩
    · obtain ⟨v, hm, hv⟩ := ih h
      exact ⟨v, by simp [hm], hv⟩

theorem idsOk_iff {vs : List V} : IdsOk vs ↔ ∀ j v, vget vs j = some v → v.id = j := by
  constructor
  · intro h j v hv
    have h0 := (le_of_vget hv).1
    simp only [vget, h0, if_false] at hv
    have := h (j - 1) v hv; omega
  · intro h k v hk
    exact h (k + 1) v (by simpa [vget] using hk)

theorem idsOk_single (n : Str) (p d : Nat) (ks : List Nat) : IdsOk [⟨1, n, p, d, ks⟩] := by
  intro k v hk
  cases k with
  | zero => simp at hk; subst hk; rfl
  | succ k => simp at hk

theorem idsOk_vmod {vs : List V} (h : IdsOk vs) (i : Nat) (g : V → V) (hg : ∀ v, (g v).id = v.id) :
    IdsOk (vmod vs i g) := by
  rw [idsOk_iff] at h ⊢
  intro j v hv
  rw [vget_vmod] at hv
  split at hv
  · obtain ⟨w, hw, rfl⟩ := Option.map_eq_some_iff.1 hv
    rw [hg]; exact h j w hw
  · exact h j v hv

theorem idsOk_append {vs : List V} (h : IdsOk vs) (n : Str) : IdsOk (vs ++ [⟨vs.length + 1, n, 0, 0, []⟩]) := by
  rw [idsOk_iff] at h ⊢
  intro j v hv
  rw [vget_append] at hv
  split at hv
  · cases hv; exact ‹j = _›.symm
  · exact h j v hv

theorem vfind_some {vs : List V} {n : Str} {i : Nat} (h : vfind vs n = some i) (hok : IdsOk vs) :
    ∃ v, vget vs i = some v ∧ v.name = n ∧ v.id = i := by
  obtain ⟨v, hm, hn, hi⟩ := vfind_mem h
  obtain ⟨k, hk⟩ := List.getElem?_of_mem hm
  have := hok k v hk
  exact ⟨v, by simp [vget, ← hi, this, hk], hn, hi⟩

theorem SamePD.refl (v : V) : SamePD v v := ⟨rfl, rfl, rfl, rfl⟩
theorem SamePD.trans {a b c : V} (h1 : SamePD a b) (h2 : SamePD b c) : SamePD a c :=
  ⟨h2.1.trans h1.1, h2.2.1.trans h1.2.1, h2.2.2.1.trans h1.2.2.1, h2.2.2.2.trans h1.2.2.2⟩

/-- `vs'` extends `vs`: names keep their ids, entries whose name is not in `S` keep name, id, parent
and doc id -/
structure Ext (S : List Str) (vs vs' : List V) : Prop where
  ok : IdsOk vs'
  find : ∀ m j, vfind vs m = some j → vfind vs' m = some j
  keep : ∀ j v, vget vs j = some v → v.name ∉ S → ∃ v', vget vs' j = some v' ∧ SamePD v v'
  len : vs.length ≤ vs'.length

theorem Ext.refl (S : List Str) {vs : List V} (h : IdsOk vs) : Ext S vs vs :=
  ⟨h, fun _ _ h => h, fun _ v hv _ => ⟨v, hv, SamePD.refl v⟩, Nat.le_refl _⟩

theorem Ext.trans {S S' : List Str} {a b c : List V} (h1 : Ext S a b) (h2 : Ext S' b c) : Ext (S ++ S') a c := by
  refine ⟨h2.ok, fun m j h => h2.find m j (h1.find m j h), ?_, Nat.le_trans h1.len h2.len⟩
  intro j v hv hn
  simp only [List.mem_append, not_or] at hn
  obtain ⟨v', hv', hs⟩ := h1.keep j v hv hn.1
  obtain ⟨v'', hv'', hs'⟩ := h2.keep j v' hv' (by rw [hs.1]; exact hn.2)
  exact ⟨v'', hv'', hs.trans hs'⟩

theorem Ext.mono {S S' : List Str} {a b : List V} (h : Ext S a b) (hs : ∀ x ∈ S, x ∈ S') : Ext S' a b :=
  ⟨h.ok, h.find, fun j v hv hn => h.keep j v hv (fun hx => hn (hs _ hx)), h.len⟩

theorem vmod_ext {vs : List V} (h : IdsOk vs) (S : List Str) (i : Nat) (g : V → V)
    (hg : ∀ v, (g v).name = v.name ∧ (g v).id = v.id)
    (hs : ∀ v, vget vs i = some v → v.name ∉ S → SamePD v (g v)) :
    Ext S vs (vmod vs i g) := by
  refine ⟨idsOk_vmod h i g (fun v => (hg v).2), fun m j hm => by rw [vfind_vmod _ _ _ hg]; exact hm, ?_,
    Nat.le_of_eq (vmod_length vs i g).symm⟩
  intro j v hv hn
  rw [vget_vmod, hv]
  by_cases hji : j = i
  · exact ⟨g v, by simp [hji], hs v (hji ▸ hv) hn⟩
  · exact ⟨v, by simp [hji], SamePD.refl v⟩

theorem vref_preserves {P : List V → Prop} {vs : List V} (n : Str) (h : P vs)
    (ha : P (vs ++ [⟨vs.length + 1, n, 0, 0, []⟩])) : P (vref vs n) := by
  unfold vref
  cases vfind vs n with
  | some i => exact h
  | none => exact ha

theorem vref_ext {vs : List V} (h : IdsOk vs) (n : Str) : Ext [] vs (vref vs n) :=
  vref_preserves (P := Ext [] vs) n (Ext.refl [] h)
    ⟨idsOk_append h n, fun m j hm => by rw [vfind_append, hm],
      fun j v hv _ => ⟨v, vget_append_left _ hv, SamePD.refl v⟩, by simp⟩

theorem vref_entry {vs : List V} (h : IdsOk vs) (n : Str) :
    ∃ i v0, i ≠ 0 ∧ vfind (vref vs n) n = some i ∧ vget (vref vs n) i = some v0 ∧ v0.name = n := by
  obtain ⟨i, hi⟩ : ∃ i, vfind (vref vs n) n = some i := by
    unfold vref
    cases hf : vfind vs n with
    | some i => exact ⟨i, hf⟩
    | none => exact ⟨vs.length + 1, by simp [vfind_append, hf]⟩
  obtain ⟨v0, hv0, hn0, _⟩ := vfind_some hi (vref_ext h n).ok
  exact ⟨i, v0, (le_of_vget hv0).1, hi, hv0, hn0⟩

/-- the references made by the optional transition of a state -/
def vtrans (tg : Option Str) (vs : List V) : List V :=
  match tg with
  | some t => (splitAsciiWs t).foldl vref vs
  | none => vs

theorem vtrans_preserves {P : List V → Prop} (h : ∀ vs n, P vs → P (vref vs n)) (tg : Option Str) {vs : List V}
    (h0 : P vs) : P (vtrans tg vs) := by
  cases tg with
  | none => exact h0
  | some t =>
    simp only [vtrans]
    generalize splitAsciiWs t = ns
    induction ns generalizing vs with
    | nil => exact h0
    | cons n r ih => exact ih (h vs n h0)

theorem vtrans_ext {vs : List V} (h : IdsOk vs) (tg : Option Str) : Ext [] vs (vtrans tg vs) :=
  vtrans_preserves (P := fun vs' => Ext [] vs vs') (fun _ n he => by simpa using he.trans (vref_ext he.ok n)) tg
    (Ext.refl [] h)

theorem vdecl_eq (vs : List V) (n : Str) (p d : Nat) (hp : p ≠ 0) {i : Nat} (hi : vfind (vref vs n) n = some i) :
    vdecl vs n p d = (i, vmod (vmod (vref vs n) i fun v => { v with docId := d, parent := p }) p
      fun v => { v with kids := if v.kids.contains i then v.kids else v.kids ++ [i] }) := by
  simp [vdecl, hi, hp]

theorem vdecl_spec {vs : List V} (h : IdsOk vs) (n : Str) (p d : Nat) (hp : p ≠ 0) :
    Ext [n] vs (vdecl vs n p d).2 ∧ (vdecl vs n p d).1 ≠ 0 ∧
    ∃ v, vfind (vdecl vs n p d).2 n = some (vdecl vs n p d).1 ∧
      vget (vdecl vs n p d).2 (vdecl vs n p d).1 = some v ∧ v.name = n ∧ v.parent = p ∧ v.docId = d := by
  obtain ⟨i, v0, hi0, hi, hv0, hn0⟩ := vref_entry h n
  rw [vdecl_eq vs n p d hp hi]
  have hA := vmod_ext (vref_ext h n).ok [n] i (fun v => { v with docId := d, parent := p }) (fun _ => ⟨rfl, rfl⟩)
    (fun v hv hn => absurd (by rw [hv0] at hv; cases hv; simp [hn0]) hn)
  have hB := vmod_ext hA.ok [] p (fun v => { v with kids := if v.kids.contains i then v.kids else v.kids ++ [i] })
    (fun _ => ⟨rfl, rfl⟩) (fun _ _ _ => ⟨rfl, rfl, rfl, rfl⟩)
  refine ⟨(((vref_ext h n).trans hA).trans hB).mono (by simp), hi0, ?_⟩
  simp only [hB.find n i (hA.find n i hi), vget_vmod, hv0]
  by_cases hip : i = p <;> simp [hip, hn0]

/-! ### trees of states -/

/-- a `<state id=name>` with an optional `<transition target=tg/>` (any references, forward or
backward) and child states -/
inductive ST where
  | node (name : Str) (tg : Option Str) (kids : List ST)

mutual
def namesT : ST → List Str
  | .node n _ ks => n :: namesF ks
def namesF : List ST → List Str
  | [] => []
  | t :: r => namesT t ++ namesF r
end

mutual
/-- doc ids consumed by a subtree: one per state, one per transition -/
def sizeT : ST → Nat
  | .node _ tg ks => (if tg.isSome then 2 else 1) + sizeF ks
def sizeF : List ST → Nat
  | [] => 0
  | t :: r => sizeT t + sizeF r
end

mutual
/-- the reader on views: declaration, references of the transition (`vtrans tg r.2` written out: `amT_node`),
children -/
def amT : ST → Nat → List V → Nat → List V
  | .node n tg ks, p, vs, d =>
    let r := vdecl vs n p d
    let vs2 := match tg with
      | some t => (splitAsciiWs t).foldl vref r.2
      | none => r.2
    amF ks r.1 vs2 (d + if tg.isSome then 2 else 1)
def amF : List ST → Nat → List V → Nat → List V
  | [], _, vs, _ => vs
  | t :: r, p, vs, d => amF r p (amT t p vs d) (d + sizeT t)
end

theorem amT_node (n : Str) (tg : Option Str) (ks : List ST) (p : Nat) (vs : List V) (d : Nat) :
    amT (.node n tg ks) p vs d =
      amF ks (vdecl vs n p d).1 (vtrans tg (vdecl vs n p d).2) (d + if tg.isSome then 2 else 1) := by
  simp only [amT, vtrans]

mutual
/-- the entry of every state of the tree has the parent of the tree and the doc id of its position
in the document -/
def GoodT (vs : List V) : ST → Nat → Nat → Prop
  | .node n tg ks, pid, d =>
    ∃ i v, vfind vs n = some i ∧ vget vs i = some v ∧ v.name = n ∧ v.parent = pid ∧ v.docId = d ∧
      GoodF vs ks i (d + if tg.isSome then 2 else 1)
def GoodF (vs : List V) : List ST → Nat → Nat → Prop
  | [], _, _ => True
  | t :: r, pid, d => GoodT vs t pid d ∧ GoodF vs r pid (d + sizeT t)
end

mutual
theorem GoodT.ext {S : List Str} {vs vs' : List V} (he : Ext S vs vs') :
    (t : ST) → (pid d : Nat) → (∀ m ∈ namesT t, m ∉ S) → GoodT vs t pid d → GoodT vs' t pid d
  | .node n tg ks, pid, d, hn, hg => by
    simp only [GoodT] at *
    obtain ⟨i, v, hf, hv, hname, hp, hd, hks⟩ := hg
    obtain ⟨v', hv', hs⟩ := he.keep i v hv (by rw [hname]; exact hn n (by simp [namesT]))
    exact ⟨i, v', he.find n i hf, hv', hs.1.trans hname, hs.2.2.1.trans hp, hs.2.2.2.trans hd,
      GoodF.ext he ks i _ (fun m hm => hn m (by simp [namesT, hm])) hks⟩
theorem GoodF.ext {S : List Str} {vs vs' : List V} (he : Ext S vs vs') :
    (ts : List ST) → (pid d : Nat) → (∀ m ∈ namesF ts, m ∉ S) → GoodF vs ts pid d → GoodF vs' ts pid d
  | [], _, _, _, _ => by simp [GoodF]
  | t :: r, pid, d, hn, hg => by
    simp only [GoodF] at *
    exact ⟨GoodT.ext he t pid d (fun m hm => hn m (by simp [namesF, hm])) hg.1,
      GoodF.ext he r pid _ (fun m hm => hn m (by simp [namesF, hm])) hg.2⟩
end

mutual
theorem amT_spec : (t : ST) → (p : Nat) → (vs : List V) → (d : Nat) → IdsOk vs → p ≠ 0 →
    Ext (namesT t) vs (amT t p vs d) ∧ ((namesT t).Nodup → GoodT (amT t p vs d) t p d)
  | .node n tg ks, p, vs, d, hok, hp => by
    obtain ⟨he1, hi0, v, hf, hv, hname, hpar, hdoc⟩ := vdecl_spec hok n p d hp
    have he2 := vtrans_ext he1.ok tg
    obtain ⟨he3, hg3⟩ := amF_spec ks (vdecl vs n p d).1 _ (d + if tg.isSome then 2 else 1) he2.ok hi0
    have he23 := he2.trans he3
    simp only [List.nil_append] at he23
    simp only [amT_node, namesT, List.nodup_cons, GoodT]
    refine ⟨(he1.trans he23).mono (by simp), fun hnd => ?_⟩
    obtain ⟨v', hv', hs⟩ := he23.keep _ v hv (by rw [hname]; exact hnd.1)
    exact ⟨_, v', he23.find n _ hf, hv', hs.1.trans hname, hs.2.2.1.trans hpar, hs.2.2.2.trans hdoc, hg3 hnd.2⟩
theorem amF_spec : (ts : List ST) → (p : Nat) → (vs : List V) → (d : Nat) → IdsOk vs → p ≠ 0 →
    Ext (namesF ts) vs (amF ts p vs d) ∧ ((namesF ts).Nodup → GoodF (amF ts p vs d) ts p d)
  | [], p, vs, d, hok, _ => by simp [amF, GoodF, namesF]; exact Ext.refl [] hok
  | t :: r, p, vs, d, hok, hp => by
    obtain ⟨he1, hg1⟩ := amT_spec t p vs d hok hp
    obtain ⟨he2, hg2⟩ := amF_spec r p (amT t p vs d) (d + sizeT t) he1.ok hp
    simp only [amF, namesF, List.nodup_append, GoodF]
    exact ⟨he1.trans he2, fun hnd =>
      ⟨GoodT.ext he2 t p d (fun m hm hm' => hnd.2.2 m hm m hm' rfl) (hg1 hnd.1), hg2 hnd.2.1⟩⟩
end

end Rfsm.Reader
