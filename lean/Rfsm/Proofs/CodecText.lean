import Rfsm.Model.Codec
import Rfsm.Proofs.Decimal
/-! `i64::to_string` / `str::parse::<i64>` round trip, and facts about the decimal text. -/
namespace Rfsm.Codec

theorem showNatF_eq (fuel n : Nat) : showNatF fuel n = Decimal.digits fuel n := by
  induction fuel generalizing n with
  | zero => rfl
  | succ fuel ih => simp only [showNatF, Decimal.digits, ih]

theorem digitsVal_eq (acc : Nat) (s : Str) : digitsVal acc s = Decimal.value acc s := by
  induction s generalizing acc with
  | nil => rfl
  | cons c r ih => simp [digitsVal, Decimal.value, isDigit, ih]

theorem digitsVal_showNatF (fuel n : Nat) (h : n ≤ fuel) : digitsVal 0 (showNatF fuel n) = some n := by
  rw [digitsVal_eq, showNatF_eq, Decimal.value_digits h]

theorem showNatF_all_digits (fuel n : Nat) : ∀ c ∈ showNatF fuel n, isDigit c = true := fun c hc => by
  have := Decimal.digits_isDigit fuel n c (showNatF_eq fuel n ▸ hc)
  simpa [isDigit] using this

theorem showNatF_length (fuel n k : Nat) (hk : 1 ≤ k) (h : n < 10 ^ k) : (showNatF fuel n).length ≤ k :=
  showNatF_eq fuel n ▸ Decimal.digits_length fuel hk h

theorem showNatF_ne_nil (fuel n : Nat) : showNatF fuel n ≠ [] :=
  showNatF_eq fuel n ▸ Decimal.digits_ne_nil fuel n

theorem validUtf8_ascii (s : Str) (h : ∀ c ∈ s, c < 128) : validUtf8 s = true := by
  induction s with
  | nil => rfl
  | cons c r ih =>
    have hc : c < 128 := h c (by simp)
    unfold validUtf8
    simp [hc]
    exact ih (fun d hd => h d (by simp [hd]))

/-- `é` any number of times, then `_` -/
theorem validUtf8_e_acute (n : Nat) : validUtf8 ((List.replicate n [195, 169]).flatten ++ [95]) = true := by
  induction n with
  | zero => decide
  | succ n ih => simpa [List.replicate_succ, validUtf8, isCont] using ih

theorem isDigit_lt (c : Nat) (h : isDigit c = true) : c < 128 := by
  simp [isDigit] at h; omega

theorem showInt_valid (v : Int) : validUtf8 (showInt v) = true := by
  apply validUtf8_ascii
  intro c hc
  unfold showInt showNat at hc
  split at hc
  · simp at hc
    rcases hc with hc | hc
    · omega
    · exact isDigit_lt c (showNatF_all_digits _ _ c hc)
  · exact isDigit_lt c (showNatF_all_digits _ _ c hc)

theorem showInt_length (v : Int) (h1 : -(2 ^ 63) ≤ v) (h2 : v < 2 ^ 63) : (showInt v).length ≤ 20 := by
  have hn : v.natAbs < 10 ^ 19 := by omega
  have := showNatF_length v.natAbs v.natAbs 19 (by omega) hn
  unfold showInt showNat
  split <;> simp <;> omega

/-- `parseI64` on the two forms `i64::to_string` produces: `-` and digits here, digits alone in
`parseI64_digit` -/
theorem parseI64_minus {r : Str} (hr : r ≠ []) :
    parseI64 (45 :: r) = (digitsVal 0 r).bind fun n => if n ≤ maxI64 + 1 then some (- Int.ofNat n) else none := by
  have : r.isEmpty = false := by simpa using hr
  simp only [parseI64, this]
  cases digitsVal 0 r <;> rfl

theorem parseI64_digit {c : Nat} {r : Str} (hc : isDigit c = true) :
    parseI64 (c :: r) = (digitsVal 0 (c :: r)).bind fun n => if n ≤ maxI64 then some (Int.ofNat n) else none := by
  have h : c ≠ 43 ∧ c ≠ 45 := by simp [isDigit] at hc; omega
  unfold parseI64
  split
  · rename_i heq; simp at heq
  · rename_i heq; simp at heq; omega
  · rename_i heq; simp at heq; omega
  · cases digitsVal 0 (c :: r) <;> rfl

theorem parseI64_showInt (v : Int) (h1 : -(2 ^ 63) ≤ v) (h2 : v < 2 ^ 63) :
    parseI64 (showInt v) = some v := by
  have hd := digitsVal_showNatF v.natAbs v.natAbs (Nat.le_refl _)
  unfold showInt showNat
  split
  · rw [parseI64_minus (showNatF_ne_nil _ _), hd, Option.bind_some, if_pos (by simp only [maxI64]; omega)]
    exact congrArg some (by simp only [Int.ofNat_eq_natCast]; omega)
  · obtain ⟨c, r, hh⟩ := List.exists_cons_of_ne_nil (showNatF_ne_nil v.natAbs v.natAbs)
    rw [hh] at hd ⊢
    rw [parseI64_digit (showNatF_all_digits v.natAbs v.natAbs c (by simp [hh])), hd, Option.bind_some,
      if_pos (by simp only [maxI64]; omega)]
    exact congrArg some (by simp only [Int.ofNat_eq_natCast]; omega)

end Rfsm.Codec
