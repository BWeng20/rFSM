import Rfsm.Proofs.CodecReads
import Rfsm.Proofs.CodecText
/-! Well-formedness limits, and the round trip of `Data` (all variants, nested arrays and maps) by
mutual structural induction. -/
namespace Rfsm.Codec

/-- limits under which a value is claimed to survive the round trip: a parameter of every `wfX`, though all
theorems are for `typeLim` (before the repairs the code was lossless only below `⟨4096, 2 ^ 60⟩`) -/
structure Lim where
  /-- strings must be shorter than this -/
  strMax : Nat
  /-- `u64`/`usize` values (delays, source ids, list lengths) must be below this -/
  uMax : Nat

/-- what the Rust types allow (`usize::MAX` long strings, full `u64`) -/
def typeLim : Lim := ⟨2 ^ 64, 2 ^ 64⟩

def wfStr (L : Lim) (s : Str) : Bool := decide (s.length < L.strMax) && validUtf8 s
def wfU (L : Lim) (v : Nat) : Bool := decide (v < L.uMax)
/-- ids are `u32` -/
def wfId (v : Nat) : Bool := decide (v < two32)

mutual
  def wfData (L : Lim) : Data → Bool
    | .integer v => decide (-(2 ^ 63 : Int) ≤ v) && decide (v < 2 ^ 63)
    | .double t => wfStr L t && isF64Text t
    | .string s => wfStr L s
    | .boolean _ => true
    | .array l => wfU L l.length && wfDataList L l
    | .map l => wfU L l.length && wfDataMap L l
    | .null => true
    | .error s => wfStr L s
    | .source s id => wfStr L s && wfU L id
    | .none => true
  def wfDataList (L : Lim) : List Data → Bool
    | [] => true
    | d :: r => wfData L d && wfDataList L r
  def wfDataMap (L : Lim) : List (Str × Data) → Bool
    | [] => true
    | (k, d) :: r => wfStr L k && wfData L d && wfDataMap L r
end

mutual
  def Data.depth : Data → Nat
    | .array l => depthList l + 1
    | .map l => depthMap l + 1
    | _ => 1
  def depthList : List Data → Nat
    | [] => 0
    | d :: r => max d.depth (depthList r)
  def depthMap : List (Str × Data) → Nat
    | [] => 0
    | (_, d) :: r => max d.depth (depthMap r)
end

theorem wfStr_lim {s : Str} (h : wfStr typeLim s = true) : s.length < 2 ^ 64 ∧ validUtf8 s = true := by
  simp only [wfStr, typeLim, Bool.and_eq_true] at h
  exact ⟨of_decide_eq_true h.1, h.2⟩

theorem Reads.wstr {s : Str} (h : wfStr typeLim s = true) : Reads pStr (Op.str s).bytes s :=
  Reads.str s (wfStr_lim h).1 (wfStr_lim h).2

theorem Reads.wuint {v : Nat} (h : wfU typeLim v = true) : Reads pUInt (uintOp v).bytes v :=
  Reads.uint v (of_decide_eq_true h)

theorem Reads.wid {v : Nat} (h : wfId v = true) : Reads pId (uintOp v).bytes v :=
  Reads.umod (by decide) (of_decide_eq_true h)

/-- the element reader in the `Map` arm of `readDataF` -/
def pairReader (fuel : Nat) : Prog (Str × Data) := do
  let k ← pStr
  let v ← readDataF fuel
  pure (k, v)

mutual
  theorem reads_data (d : Data) (fuel : Nat) (hw : wfData typeLim d = true) (hf : d.depth ≤ fuel) :
      Reads (readDataF fuel) (bytesOf (opsData d)) d := by
    cases fuel with
    | zero => cases d <;> simp [Data.depth] at hf
    | succ fuel =>
      cases d <;>
        simp only [opsData, wfData, bytesOf_cons, bytesOf_nil, List.append_nil, Bool.and_eq_true,
          decide_eq_true_eq] at hw ⊢
      case null => exact Reads.bind_pure (Reads.u8 0 (by omega)) rfl
      case none => exact Reads.bind_pure (Reads.u8 9 (by omega)) rfl
      case boolean b => exact Reads.bind (Reads.u8 4 (by omega)) (Reads.bind_pure (Reads.bool b) rfl)
      case string s => exact Reads.bind (Reads.u8 3 (by omega)) (Reads.bind_pure (Reads.wstr hw) rfl)
      case error s => exact Reads.bind (Reads.u8 7 (by omega)) (Reads.bind_pure (Reads.wstr hw) rfl)
      case source s id =>
        exact Reads.bind (Reads.u8 8 (by omega)) (Reads.bind (Reads.wstr hw.1) (Reads.bind_pure (Reads.wuint hw.2) rfl))
      case double t =>
        refine Reads.bind (Reads.u8 2 (by omega)) (Reads.bind_pure (Reads.wstr hw.1) ?_)
        simp [hw.2]
      case integer v =>
        have hs : Reads pStr (Op.str (showInt v)).bytes (showInt v) :=
          Reads.str _ (by have := showInt_length v hw.1 hw.2; omega) (showInt_valid v)
        refine Reads.bind (Reads.u8 1 (by omega)) (Reads.bind_pure hs ?_)
        simp [parseI64_showInt v hw.1 hw.2]
      case array l =>
        simp only [Data.depth] at hf
        refine Reads.bind (Reads.u8 5 (by omega)) (Reads.bind (Reads.wuint hw.1) ?_)
        exact Reads.bind_pure (reads_dataList l fuel hw.2 (by omega)) rfl
      case map l =>
        simp only [Data.depth] at hf
        refine Reads.bind (Reads.u8 6 (by omega)) (Reads.bind (Reads.wuint hw.1) ?_)
        exact Reads.bind_pure (reads_dataMap l fuel hw.2 (by omega)) rfl
  theorem reads_dataList (l : List Data) (fuel : Nat) (hw : wfDataList typeLim l = true)
      (hf : depthList l ≤ fuel) :
      Reads (readN l.length (readDataF fuel)) (bytesOf (opsDataList l)) l := by
    cases l with
    | nil => exact Reads.pure []
    | cons d r =>
      simp only [wfDataList, Bool.and_eq_true] at hw
      simp only [depthList] at hf
      simp only [opsDataList, bytesOf_append]
      exact Reads.cons (reads_data d fuel hw.1 (by omega)) (reads_dataList r fuel hw.2 (by omega))
  theorem reads_dataMap (l : List (Str × Data)) (fuel : Nat) (hw : wfDataMap typeLim l = true)
      (hf : depthMap l ≤ fuel) :
      Reads (readN l.length (pairReader fuel)) (bytesOf (opsDataMap l)) l := by
    cases l with
    | nil => exact Reads.pure []
    | cons kd r =>
      obtain ⟨k, d⟩ := kd
      simp only [wfDataMap, Bool.and_eq_true] at hw
      simp only [depthMap] at hf
      simp only [opsDataMap, bytesOf_cons, bytesOf_append, ← List.append_assoc]
      exact Reads.cons (Reads.bind (Reads.wstr hw.1.1) (Reads.bind_pure (reads_data d fuel hw.1.2 (by omega)) rfl))
        (reads_dataMap r fuel hw.2 (by omega))
end

/-- well-formed and nested no deeper than the model reader's fuel -/
def wfD (L : Lim) (d : Data) : Bool := wfData L d && decide (d.depth ≤ dataFuel)

/-- `read_data` on the bytes of `write_data(d)` followed by anything -/
theorem Reads.wdata {d : Data} (h : wfD typeLim d = true) : Reads readData (bytesOf (opsData d)) d := by
  simp only [wfD, Bool.and_eq_true, decide_eq_true_eq] at h
  exact reads_data d dataFuel h.1 h.2

end Rfsm.Codec
