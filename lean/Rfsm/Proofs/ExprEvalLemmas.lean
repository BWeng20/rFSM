import Rfsm.Model.ExprEval
import Rfsm.Proofs.ExprParserLemmas
/-!
The evaluator releases every data lock it takes and, started with none held, never blocks on one of
its own, never panics and never reports the parser's `livelock` (`eval_keeps`).  Proved over the
functional induction principle of the mutually recursive evaluator; the case names (`case19` …) are
those of `eval.mutual_induct_unfolding`.
-/
namespace Rfsm.Expr

variable {D : Type}

def Out.isValueOrError {α : Type} : Out α → Bool
  | .ok _ => true
  | .err _ => true
  | _ => false

theorem St.alloc_eq {st st' : St D} {d : Data D} {r : Ref} :
    st.alloc d = (st', r) ↔
      st' = { st with cells := st.cells ++ [d] } ∧ r = ⟨st.cells.length, false⟩ := by
  simp [St.alloc, eq_comm]

theorem St.lock_eq_none {st : St D} {i : Nat} : st.lock i = none ↔ i ∈ st.held := by
  simp [St.lock]

theorem St.lock_eq_some {st st' : St D} {i : Nat} :
    st.lock i = some st' ↔ i ∉ st.held ∧ st' = { st with held := i :: st.held } := by
  simp [St.lock, eq_comm]

theorem runAction_isValueOrError (ops : DoubleOps D) (cells : Cells D) (name : Str)
    (ds : List (Data D)) : (runAction ops cells name ds).isValueOrError = true := by
  fun_cases runAction ops cells name ds <;> rfl

/-- the outcomes of an evaluation that starts with the cells `held` locked: no panic, no `livelock`,
and a `lock` of the evaluator's own fails only if something was held -/
def Out.fine {α : Type} (held : List Nat) : Out α → Prop
  | .panic _ | .livelock => False
  | .deadlock s => s = .other → held ≠ []
  | _ => True

theorem Out.fine.ne_panic {α : Type} {held : List Nat} {o : Out α} (h : o.fine held)
    (s : PanicSite) : o ≠ .panic s := by
  rintro rfl; exact h

theorem Out.fine.ne_livelock {α : Type} {held : List Nat} {o : Out α} (h : o.fine held) :
    o ≠ .livelock := by
  rintro rfl; exact h

theorem Out.fine.site {α : Type} {o : Out α} (h : o.fine []) {s : LockSite}
    (hd : o = .deadlock s) : s = .equal := by
  subst hd
  cases s with
  | equal => rfl
  | other => exact absurd rfl (h rfl)

/-- with nothing held: a value, an error, a block inside `DataArc::eq`, or the model's heap
recursion out of fuel -/
theorem Out.fine_nil_iff {α : Type} {o : Out α} :
    o.fine [] ↔ o.isValueOrError = true ∨ o = .deadlock .equal ∨ o = .fuelOut := by
  cases o <;> simp [Out.fine, Out.isValueOrError]
  rename_i s; cases s <;> simp

/-- what every evaluator function guarantees: `held` afterwards is `held` before, whatever the
outcome (a failed `lock` changes nothing, every successful one is followed by the `unlock` of the
same cell on every path); and the outcome is `fine` -/
def Keeps {α : Type} (st : St D) (r : St D × Out α) : Prop :=
  r.1.held = st.held ∧ r.2.fine st.held

theorem eval_keeps_all (ops : DoubleOps D) :
    (∀ e au (st : St D), Keeps st (eval ops e au st)) ∧
    (∀ es au (st : St D) r, r.fine st.held → Keeps st (evalSeq ops es au st r)) ∧
    (∀ args (st : St D), Keeps st (evalArgs ops args st)) ∧
    (∀ fs au (st : St D) acc, Keeps st (evalFields ops fs au st acc)) ∧
    (∀ items au (st : St D), Keeps st (evalList ops items au st)) := by
  apply eval.mutual_induct_unfolding ops
    (motive_1 := fun _ _ st r => Keeps st r)
    (motive_2 := fun _ _ st r0 r => r0.fine st.held → Keeps st r)
    (motive_3 := fun _ st r => Keeps st r)
    (motive_4 := fun _ _ st _ r => Keeps st r)
    (motive_5 := fun _ _ st r => Keeps st r)
  -- the arms `.panic`, `.deadlock`, `.livelock` of `match runAction …` under `.method` (hypothesis `h`:
  -- `runAction … = .panic s` etc.): `runAction` has none of these to hand on
  case case19 | case20 | case21 =>
    intros; rename_i h _; have := h ▸ runAction_isValueOrError ops _ _ _; cases this
  all_goals intros
  -- the principle leaves three of the loop functions folded
  any_goals simp only [evalSeq, evalArgs, evalList, *]
  -- `lock i` gives `i :: held` (`St.lock_eq_some`), the `unlock i` behind it erases that head (`St.unlock`)
  all_goals simp_all +zetaDelta [Keeps, Out.fine, St.alloc_eq, St.lock_eq_none, St.lock_eq_some,
    St.unlock, St.setCell]
  -- left: the failed locks, `.deadlock .other`, of which `Out.fine` asks `held ≠ []`: their cell is in
  -- `held` (`St.lock_eq_none`), so `h0 : held = []` is absurd
  all_goals (intro h0; simp_all)

theorem eval_keeps (ops : DoubleOps D) (e : Expr) (au : Bool) (st : St D) :
    Keeps st (eval ops e au st) := (eval_keeps_all ops).1 e au st

/-- the parser adds no outcome of its own: it is total -/
theorem execute_keeps (ops : DoubleOps D) (text : Str) (st : St D) :
    Keeps st (execute ops text st) := by
  unfold execute
  rcases parse_total text with ⟨e, h⟩ | ⟨e, h⟩ <;> simp only [h]
  · exact eval_keeps ops e false st
  · exact ⟨rfl, trivial⟩

end Rfsm.Expr
