import Rfsm.Proofs.TreeLemmas
import Rfsm.Proofs.ReachLemmas
/-!
Start-up enters the document root: `computeEntrySet d [] (rootInit d)` contains `d.root` for a
conformant document whose root has children and whose first initial target is a proper state.
-/
namespace Rfsm.Interp

theorem takeWhile_all {l : List Nat} {p : Nat → Bool} (h : ∀ x ∈ l, p x = true) : l.takeWhile p = l := by
  simpa using List.takeWhile_append_of_pos (l₂ := []) h

theorem getProperAncestors_zero (d : Doc) (s : Nat) : getProperAncestors d s 0 = ancestors d s := by
  unfold getProperAncestors
  have : isDescendant d 0 s = false := by unfold isDescendant; simp
  rw [this]
  simp only [Bool.not_false, ↓reduceIte]
  apply takeWhile_all
  intro x hx
  have : x ≠ 0 := fun e => ancestorsAux_no_zero d _ _ (e ▸ hx)
  simpa using this

theorem effTargets_head {d : Doc} (hv : Table) (t : Transition) (t0 : Nat) (ts' : List Nat)
    (ht : t.target = t0 :: ts') (hn : isHistoryState d t0 = false) : t0 ∈ effTargets d hv t := by
  unfold effTargets fuelOf effTargetsAux
  rw [ht]
  simp only [List.foldl_cons, hn, Bool.false_eq_true, ↓reduceIte]
  -- the first step puts `t0` in, and no later step of the fold loses a member
  refine foldl_inv (P := fun acc => t0 ∈ acc) (fun acc s _ h => ?_) (mem_oadd.2 (Or.inr rfl))
  split
  · split <;> exact mem_ounion.2 (Or.inl h)
  · exact mem_oadd.2 (Or.inl h)

/-- the domain of a transition that starts at the root is "no state": everything up to and
    including the root is entered -/
theorem transDomain_of_root_source {d : Doc} (hr : parentOf d d.root = 0) (hv : Table) (t : Transition)
    (hs : t.source = d.root) : transDomain d hv t = 0 := by
  unfold transDomain
  simp only
  split
  · rfl
  · have : (t.source != d.root) = false := by simp [hs]
    simp only [this, Bool.and_false, Bool.false_and, Bool.false_eq_true, ↓reduceIte]
    have hanc : getProperAncestors d d.root 0 = [] := by
      rw [getProperAncestors_zero]
      unfold ancestors; rw [hr, ancestorsAux_zero]
    unfold findLCCA
    rw [hs]
    simp only [hanc]
    simp

/-- start-up enters the root: the initial transition starts at the root, so its domain is "no
    state" and the ancestors entered for its first target go up to and including the root -/
theorem computeEntrySet_root {d : Doc} (ht : TreeLike d) (tid t0 : Nat) (ts' : List Nat)
    (hsrc : (getTrans d tid).source = d.root) (htg : (getTrans d tid).target = t0 :: ts')
    (hn : isHistoryState d t0 = false) (hd : isDescendant d t0 d.root = true) (hv : Table) :
    d.root ∈ (computeEntrySet d hv [tid]).toEnter := by
  refine (computeEntrySet_adds d hv [tid] tid List.mem_cons_self).2 t0
    (effTargets_head hv _ t0 ts' htg hn) d.root ?_
  rw [transDomain_of_root_source ht.rootParent hv _ hsrc, getProperAncestors_zero]
  exact (isDescendant_iff.1 hd).2.2.2

/-- `hnh` is a limit of the proof, not of the fact: `effTargets_head` does not follow `effTargetsAux`
    through the dereference of a history first target -/
theorem conformant_root_entered {d : Doc} (hc : conformantB d = true) (hk : (getState d d.root).kids ≠ [])
    (hnh : ∀ t0 ts', (getTrans d (getState d d.root).initial).target = t0 :: ts' → isHistoryState d t0 = false) :
    d.root ∈ (computeEntrySet d [] (rootInit d)).toEnter := by
  obtain ⟨hi, hsrc, hne, hdesc⟩ :=
    (conformant_state hc (s := d.root) fun e => hk (by rw [e]; rfl)).initial (by
      cases hkk : (getState d d.root).kids with
      | nil => exact absurd hkk hk
      | cons a l => simp)
  rw [show rootInit d = [(getState d d.root).initial] by simp [rootInit, hi]]
  cases htg : (getTrans d (getState d d.root).initial).target with
  | nil => exact absurd htg hne
  | cons t0 ts' =>
    exact computeEntrySet_root (conformant_treeLike hc) _ t0 ts' hsrc htg (hnh t0 ts' htg)
      (hdesc t0 (by rw [htg]; exact List.mem_cons_self)) []

end Rfsm.Interp
