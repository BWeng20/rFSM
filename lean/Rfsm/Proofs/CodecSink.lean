import Rfsm.Model.Sink
import Rfsm.Proofs.CodecPrim
/-! The writer against arbitrary sinks: a failing call is always visible in the error flag (`runOps_inv`); a
sink that takes only part of a call (but at least one byte) still gets everything (`runOps_ok`), the ideal
sink among them (`idealSink_accepts`). -/
namespace Rfsm.Codec

/-- the error flag reflects every failure seen so far -/
def WInv (w : WState) : Prop := w.sawErr = true → w.ok = false

/-- the bookkeeping of a call that starts in `w` and answers `r`: `ok` is left to the caller, the answer `false`
comes with a failure noted, the answer `true` with none -/
def Call (w : WState) (r : Bool × WState) : Prop :=
  r.2.ok = w.ok ∧ (r.1 = false → r.2.sawErr = true) ∧ (r.1 = true → r.2.sawErr = w.sawErr)

theorem Call.refl (w : WState) : Call w (true, w) := ⟨rfl, nofun, fun _ => rfl⟩

theorem Call.trans {w w1 : WState} {r : Bool × WState} (h1 : Call w (true, w1)) (h2 : Call w1 r) : Call w r :=
  ⟨h2.1.trans h1.1, h2.2.1, fun hr => (h2.2.2 hr).trans (h1.2.2 rfl)⟩

/-- the caller clears `ok` on the answer `false` (`eval_result`) -/
theorem Call.settle {w : WState} {r : Bool × WState} :
    Call w r → WInv w → WInv (match r with | (true, w) => w | (false, w) => { w with ok := false }) := by
  obtain ⟨b, w'⟩ := r
  cases b
  · intro _ _ _; rfl
  · intro hc h hs; exact hc.1.trans (h ((hc.2.2 rfl).symm.trans hs))

theorem sinkWrite_call (k : Sink) (buf : List Nat) (w : WState) :
    Call w ((sinkWrite k buf w).1.isSome, (sinkWrite k buf w).2) := by
  unfold sinkWrite
  cases k.resp w.calls buf.length
  · exact ⟨rfl, nofun, fun _ => rfl⟩
  · exact ⟨rfl, fun _ => rfl, nofun⟩

/-- `write_u8(b)` is `write_all(&[b])` -/
theorem writeByte_eq (k : Sink) (b : Nat) (w : WState) : writeByte k b w = writeAll k 1 [b] w := by
  unfold writeByte writeAll
  rcases sinkWrite k [b] w with ⟨_ | _ | n, w'⟩ <;> simp [writeAll]

theorem writeAll_call (k : Sink) (fuel : Nat) (buf : List Nat) (w : WState) (hf : buf.length ≤ fuel) :
    Call w (writeAll k fuel buf w) := by
  induction fuel generalizing buf w with
  | zero =>
    obtain rfl : buf = [] := List.eq_nil_of_length_eq_zero (by omega)
    exact .refl w
  | succ fuel ih =>
    cases buf with
    | nil => exact .refl w
    | cons b r =>
      have hb := sinkWrite_call k (b :: r) w
      unfold writeAll
      revert hb
      rcases sinkWrite k (b :: r) w with ⟨_ | _ | n, w'⟩ <;> intro hb <;> simp only
      · exact hb
      · exact ⟨hb.1, fun _ => rfl, nofun⟩
      · exact hb.trans (ih _ w' (by simp only [List.length_drop, List.length_cons] at hf ⊢; omega))

theorem writeByte_call (k : Sink) (b : Nat) (w : WState) : Call w (writeByte k b w) :=
  writeByte_eq k b w ▸ writeAll_call k 1 [b] w (Nat.le_refl 1)

theorem writeBytes_call (k : Sink) (bs : List Nat) (w : WState) : Call w (writeBytes k bs w) := by
  induction bs generalizing w with
  | nil => exact .refl w
  | cons b r ih =>
    have hb := writeByte_call k b w
    rw [writeBytes]
    revert hb
    rcases writeByte k b w with ⟨_ | _, w'⟩ <;> intro hb <;> simp only
    · exact hb
    · exact hb.trans (ih w')

theorem runTv_inv (k : Sink) (bs : List Nat) (w : WState) (h : WInv w) : WInv (runTv k bs w) := by
  unfold runTv
  split
  · exact (writeBytes_call k bs w).settle h
  · exact h

theorem Op.run_inv (k : Sink) (op : Op) (w : WState) (h : WInv w) : WInv (op.run k w) := by
  cases op with
  | tv tid v size => exact runTv_inv k _ w h
  | byte b => exact runTv_inv k _ w h
  | flush =>
    simp only [Op.run]
    split
    · split
      · intro _; rfl
      · exact h
    · exact h
  | str s =>
    simp only [Op.run]
    split
    · exact (writeAll_call k _ s _ (Nat.le_refl _)).settle (runTv_inv k (strHeader s) w h)
    · exact h

/-- whatever the sink does: if some call failed, `has_error()` is true afterwards -/
theorem runOps_inv (k : Sink) (ops : List Op) (w : WState) (h : WInv w) : WInv (runOps k ops w) := by
  induction ops generalizing w with
  | nil => exact h
  | cons op r ih =>
    unfold runOps
    exact ih _ (Op.run_inv k op w h)

/-- the sink never reports an error and takes at least `m` bytes of every call (all of a shorter one): a
lower bound, whatever the name suggests -/
def AcceptsUpTo (k : Sink) (m : Nat) : Prop :=
  k.flushFails = false ∧ ∀ i len, ∃ n, k.resp i len = .acc n ∧ min len m ≤ n

/-- `w'` is `w` after the sink has taken `bs`, nothing else noted -/
def Delivered (w : WState) (bs : List Nat) (w' : WState) : Prop :=
  w'.out = w.out ++ bs ∧ w'.ok = w.ok ∧ w'.sawErr = w.sawErr

theorem Delivered.nil (w : WState) : Delivered w [] w := ⟨by simp, rfl, rfl⟩

theorem Delivered.append {w w1 w2 : WState} {a b : List Nat} (h1 : Delivered w a w1) (h2 : Delivered w1 b w2) :
    Delivered w (a ++ b) w2 :=
  ⟨by rw [h2.1, h1.1, List.append_assoc], h2.2.1.trans h1.2.1, h2.2.2.trans h1.2.2⟩

theorem sinkWrite_ok (k : Sink) (hk : AcceptsUpTo k 1) (b : Nat) (r : List Nat) (w : WState) :
    ∃ j w', sinkWrite k (b :: r) w = (some (j + 1), w') ∧ Delivered w ((b :: r).take (j + 1)) w' := by
  obtain ⟨n, hr, hn⟩ := hk.2 w.calls (b :: r).length
  obtain ⟨j, hj⟩ : ∃ j, min n (b :: r).length = j + 1 :=
    ⟨min n (b :: r).length - 1, by simp only [List.length_cons] at hn ⊢; omega⟩
  simp only [sinkWrite, hr, hj]
  exact ⟨j, _, rfl, rfl, rfl, rfl⟩

theorem writeAll_ok (k : Sink) (hk : AcceptsUpTo k 1) (fuel : Nat) (buf : List Nat) (w : WState)
    (hf : buf.length ≤ fuel) : ∃ w', writeAll k fuel buf w = (true, w') ∧ Delivered w buf w' := by
  induction fuel generalizing buf w with
  | zero =>
    obtain rfl : buf = [] := List.eq_nil_of_length_eq_zero (by omega)
    exact ⟨w, rfl, .nil w⟩
  | succ fuel ih =>
    cases buf with
    | nil => exact ⟨w, rfl, .nil w⟩
    | cons b r =>
      obtain ⟨j, w1, e, d1⟩ := sinkWrite_ok k hk b r w
      obtain ⟨w2, e2, d2⟩ := ih ((b :: r).drop (j + 1)) w1
        (by simp only [List.length_drop, List.length_cons] at hf ⊢; omega)
      exact ⟨w2, by simp only [writeAll, e, e2], List.take_append_drop (j + 1) (b :: r) ▸ d1.append d2⟩

theorem writeBytes_ok (k : Sink) (hk : AcceptsUpTo k 1) (bs : List Nat) (w : WState) :
    ∃ w', writeBytes k bs w = (true, w') ∧ Delivered w bs w' := by
  induction bs generalizing w with
  | nil => exact ⟨w, rfl, .nil w⟩
  | cons b r ih =>
    obtain ⟨w1, e1, d1⟩ := writeAll_ok k hk 1 [b] w (Nat.le_refl 1)
    obtain ⟨w2, e2, d2⟩ := ih w1
    exact ⟨w2, by simp [writeBytes, writeByte_eq, e1, e2], d1.append d2⟩

theorem runTv_ok (k : Sink) (hk : AcceptsUpTo k 1) (bs : List Nat) (w : WState) (hw : w.ok = true) :
    Delivered w bs (runTv k bs w) := by
  obtain ⟨w', e, d⟩ := writeBytes_ok k hk bs w
  simpa [runTv, hw, e] using d

theorem Op.run_ok (k : Sink) (hk : AcceptsUpTo k 1) (op : Op) (w : WState) (hw : w.ok = true) :
    Delivered w op.bytes (op.run k w) := by
  cases op with
  | tv tid v size => exact runTv_ok k hk _ w hw
  | byte b => exact runTv_ok k hk [b] w hw
  | flush => simpa [Op.run, hw, hk.1, Op.bytes] using Delivered.nil w
  | str s =>
    have d1 := runTv_ok k hk (strHeader s) w hw
    obtain ⟨w', e, d2⟩ := writeAll_ok k hk s.length s (runTv k (strHeader s) w) (Nat.le_refl _)
    simpa [Op.run, hw, e, Op.bytes] using d1.append d2

theorem runOps_ok (k : Sink) (hk : AcceptsUpTo k 1) (ops : List Op) (w : WState) (hw : w.ok = true) :
    Delivered w (bytesOf ops) (runOps k ops w) := by
  induction ops generalizing w with
  | nil => exact .nil w
  | cons op r ih =>
    have d := Op.run_ok k hk op w hw
    rw [bytesOf_cons]
    exact d.append (ih _ (d.2.1.trans hw))

theorem idealSink_accepts (m : Nat) : AcceptsUpTo idealSink m :=
  ⟨rfl, fun _ len => ⟨len, rfl, by omega⟩⟩

end Rfsm.Codec
