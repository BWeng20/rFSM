import Rfsm.Proofs.SetLemmas
/-!
The entry-set computation (`addDesc` / `addAnc`, mutual, fuel-indexed; M-INT): one closure principle
for invariants of the accumulator (`Closed`, `entry_closure`), and through it: no history pseudo-state
is entered, the entry set only grows, and what it is sure to contain (`computeEntrySet_adds`).
-/
namespace Rfsm.Interp

/-! ### the walk up the parent pointers passes no history pseudo-state -/

/-- no state has a history pseudo-state as its parent -/
def NoHistParent (d : Doc) : Prop :=
  ∀ x, parentOf d x ≠ 0 → isHistoryState d (parentOf d x) = false

theorem ancestorsAux_zero (d : Doc) (f : Nat) : ancestorsAux d f 0 = [] := by
  cases f <;> simp [ancestorsAux]

theorem mem_ancestorsAux_succ {d : Doc} {f c a : Nat} :
    a ∈ ancestorsAux d (f + 1) c ↔ c ≠ 0 ∧ (a = c ∨ a ∈ ancestorsAux d f (parentOf d c)) := by
  rw [ancestorsAux]
  split <;> simp [*]

theorem ancestorsAux_no_zero (d : Doc) : ∀ (f c : Nat), (0 : Nat) ∉ ancestorsAux d f c
  | 0, _ => by simp [ancestorsAux]
  | f + 1, c => fun h =>
    (mem_ancestorsAux_succ.1 h).2.elim (fun e => (mem_ancestorsAux_succ.1 h).1 e.symm)
      (ancestorsAux_no_zero d f _)

theorem ancestorsAux_noHist {d : Doc} (h : NoHistParent d) :
    ∀ (f x : Nat) (a : Nat), a ∈ ancestorsAux d f (parentOf d x) → isHistoryState d a = false
  | 0, _, _, ha => by simp [ancestorsAux] at ha
  | f + 1, x, a, ha => by
    obtain ⟨hne, rfl | ha⟩ := mem_ancestorsAux_succ.1 ha
    · exact h x hne
    · exact ancestorsAux_noHist h f _ a ha

theorem getProperAncestors_noHist {d : Doc} (h : NoHistParent d) (s anc a : Nat)
    (ha : a ∈ getProperAncestors d s anc) : isHistoryState d a = false := by
  unfold getProperAncestors at ha
  split at ha
  · exact ancestorsAux_noHist h _ s a ((List.takeWhile_sublist _).subset ha)
  · simp at ha

/-! ### the closure principle -/

/-- `P` survives the three primitive updates of the accumulator.  What is ever put into `toEnter` is a
    non-history state handed to `addDesc` or a proper ancestor. -/
structure Closed (d : Doc) (P : EntryAcc → Prop) : Prop where
  toEnter : ∀ acc y, (isHistoryState d y = false ∨ ∃ s anc, y ∈ getProperAncestors d s anc) →
    P acc → P { acc with toEnter := oadd acc.toEnter y }
  defaultEntry : ∀ acc y, P acc → P { acc with defaultEntry := oadd acc.defaultEntry y }
  histContent : ∀ acc k v, P acc → P { acc with histContent := hcPut acc.histContent k v }

/-- the fold over the children of a parallel state keeps what `addDesc` keeps -/
theorem kidsFold_inv {d : Doc} {hv : Table} {f : Nat} {P : EntryAcc → Prop}
    (hD : ∀ sid acc, P acc → P (addDesc d hv f sid acc)) (l : List Nat) (acc : EntryAcc) (h : P acc) :
    P (l.foldl (fun a child =>
      if !a.toEnter.any (fun s => isDescendant d s child) then addDesc d hv f child a else a) acc) := by
  refine foldl_inv (fun b a _ hb => ?_) h
  split
  · exact hD a b hb
  · exact hb

theorem entry_closure {d : Doc} {P : EntryAcc → Prop} (hP : Closed d P) (hv : Table) :
    ∀ (f : Nat),
      (∀ sid acc, P acc → P (addDesc d hv f sid acc)) ∧
      (∀ s anc acc, P acc → P (addAnc d hv f s anc acc)) := by
  intro f
  induction f with
  | zero => exact ⟨fun _ _ h => by simpa [addDesc] using h, fun _ _ _ h => by simpa [addAnc] using h⟩
  | succ f ih =>
    obtain ⟨ihD, ihA⟩ := ih
    have descs : ∀ (l : List Nat) (acc : EntryAcc),
        P acc → P (l.foldl (fun a s => addDesc d hv f s a) acc) :=
      fun l acc h => foldl_inv (fun b a _ hb => ihD a b hb) h
    have ancs : ∀ (l : List Nat) (p : Nat) (acc : EntryAcc),
        P acc → P (l.foldl (fun a s => addAnc d hv f s p a) acc) :=
      fun l p acc h => foldl_inv (fun b a _ hb => ihA a p b hb) h
    refine ⟨fun sid acc h => ?_, fun s anc acc h => ?_⟩
    · unfold addDesc
      simp only
      split
      · split
        · exact ancs _ _ _ (descs _ _ h)
        · exact ancs _ _ _ (descs _ _ (hP.histContent _ _ _ h))
      · rename_i hnh
        have h1 := hP.toEnter acc sid (Or.inl (by simpa using hnh)) h
        split
        · split
          · exact ancs _ _ _ (descs _ _ (hP.defaultEntry _ sid h1))
          · exact hP.defaultEntry _ sid h1
        · split
          · exact kidsFold_inv ihD _ _ h1
          · exact h1
    · unfold addAnc
      refine foldl_inv (fun b a ha hb => ?_) h
      have h1 := hP.toEnter b a (Or.inr ⟨s, anc, ha⟩) hb
      simp only
      split
      · exact kidsFold_inv ihD _ _ h1
      · exact h1

/-- what processing one transition adds to the entry set -/
def entryStep (d : Doc) (hv : Table) (acc : EntryAcc) (tid : Nat) : EntryAcc :=
  let t := getTrans d tid
  let acc := t.target.foldl (fun a s => addDesc d hv (entryFuel d) s a) acc
  let anc := transDomain d hv t
  (effTargets d hv t).foldl (fun a s => addAnc d hv (entryFuel d) s anc a) acc

theorem computeEntrySet_eq (d : Doc) (hv : Table) (ts : List Nat) :
    computeEntrySet d hv ts = ts.foldl (entryStep d hv) {} := rfl

theorem entryStep_closure {d : Doc} {P : EntryAcc → Prop} (hP : Closed d P) (hv : Table)
    (acc : EntryAcc) (tid : Nat) (h : P acc) : P (entryStep d hv acc tid) :=
  have key := entry_closure hP hv (entryFuel d)
  foldl_inv (fun b s _ hb => key.2 s _ b hb) (foldl_inv (fun b s _ hb => key.1 s b hb) h)

theorem computeEntrySet_noHist {d : Doc} (hv : Table) (hp : NoHistParent d) (ts : List Nat) :
    ∀ x ∈ (computeEntrySet d hv ts).toEnter, isHistoryState d x = false := by
  rw [computeEntrySet_eq]
  let P := fun (acc : EntryAcc) => ∀ x ∈ acc.toEnter, isHistoryState d x = false
  refine foldl_inv (P := P) (fun b tid _ hb => ?_) (fun x hx => by cases hx)
  refine entryStep_closure (P := P) ⟨fun acc y hy h x hx => ?_, fun _ _ h => h, fun _ _ _ h => h⟩ hv b tid hb
  rcases mem_oadd.1 hx with hx | rfl
  · exact h x hx
  · exact hy.elim id fun ⟨s, anc, ha⟩ => getProperAncestors_noHist hp s anc x ha

/-! ### the entry set only grows, and what it is sure to contain -/

theorem closed_mem (d : Doc) (x : Nat) : Closed d (fun a => x ∈ a.toEnter) :=
  ⟨fun _ _ _ h => mem_oadd.2 (Or.inl h), fun _ _ h => h, fun _ _ _ h => h⟩

theorem addDesc_mono {d : Doc} (hv : Table) (f sid : Nat) (acc : EntryAcc) (x : Nat)
    (hx : x ∈ acc.toEnter) : x ∈ (addDesc d hv f sid acc).toEnter :=
  (entry_closure (closed_mem d x) hv f).1 sid acc hx

theorem addAnc_mono {d : Doc} (hv : Table) (f s anc : Nat) (acc : EntryAcc) (x : Nat)
    (hx : x ∈ acc.toEnter) : x ∈ (addAnc d hv f s anc acc).toEnter :=
  (entry_closure (closed_mem d x) hv f).2 s anc acc hx

theorem kidsFold_mono {d : Doc} (hv : Table) (f : Nat) (kids : List Nat) (acc : EntryAcc) (x : Nat)
    (hx : x ∈ acc.toEnter) :
    x ∈ (kids.foldl (fun a child =>
      if !a.toEnter.any (fun s => isDescendant d s child) then addDesc d hv f child a else a) acc).toEnter :=
  kidsFold_inv (P := fun a => x ∈ a.toEnter) (fun s a => addDesc_mono hv f s a x) kids acc hx

theorem addDesc_adds {d : Doc} (hv : Table) (f sid : Nat) (acc : EntryAcc)
    (hn : isHistoryState d sid = false) : sid ∈ (addDesc d hv (f + 1) sid acc).toEnter := by
  unfold addDesc
  simp only [hn, Bool.false_eq_true, ↓reduceIte]
  -- `oadd … sid` puts it in; everything after only grows the set
  have h0 : sid ∈ ({ acc with toEnter := oadd acc.toEnter sid } : EntryAcc).toEnter := mem_oadd.2 (Or.inr rfl)
  split
  · split
    · exact foldl_inv (fun b a _ hb => addAnc_mono hv f a _ b sid hb)
        (foldl_inv (fun b a _ hb => addDesc_mono hv f a b sid hb) h0)
    · exact h0
  · split
    · exact kidsFold_mono hv f _ _ sid h0
    · exact h0

theorem addAnc_adds {d : Doc} (hv : Table) (f s anc : Nat) (acc : EntryAcc) (a : Nat)
    (ha : a ∈ getProperAncestors d s anc) : a ∈ (addAnc d hv (f + 1) s anc acc).toEnter := by
  unfold addAnc
  -- the step at an ancestor `c` is `oadd … c` followed by something that only grows the set
  refine foldl_adds (P := fun x => a ∈ x.toEnter) (fun b c hb => ?_) (fun b => ?_) ha acc
  · simp only
    split
    · exact kidsFold_mono hv f _ _ a (mem_oadd.2 (Or.inl hb))
    · exact mem_oadd.2 (Or.inl hb)
  · simp only
    split
    · exact kidsFold_mono hv f _ _ a (mem_oadd.2 (Or.inr rfl))
    · exact mem_oadd.2 (Or.inr rfl)

/-- the two passes the algorithm makes over target lists — `addDesc` for each member of `l`, then
    `addAnc … p` for each member of `l'` — leave in the entry set every non-history member of `l`
    and every proper ancestor below `p` of a member of `l'` -/
theorem passes_adds {d : Doc} (hv : Table) (f p : Nat) (l l' : List Nat) (acc : EntryAcc) :
    let r := l'.foldl (fun a s => addAnc d hv (f + 1) s p a) (l.foldl (fun a s => addDesc d hv (f + 1) s a) acc)
    (∀ t ∈ l, isHistoryState d t = false → t ∈ r.toEnter) ∧
    (∀ s ∈ l', ∀ a ∈ getProperAncestors d s p, a ∈ r.toEnter) := by
  refine ⟨fun t ht hn => ?_, fun s hs a ha => ?_⟩
  · refine foldl_inv (P := fun a => t ∈ a.toEnter) (fun b s _ hb => addAnc_mono hv _ s _ b t hb) ?_
    exact foldl_adds (P := fun a => t ∈ a.toEnter) (fun b s hb => addDesc_mono hv _ s b t hb)
      (fun b => addDesc_adds hv _ t b hn) ht acc
  · exact foldl_adds (P := fun x => a ∈ x.toEnter) (fun b c hb => addAnc_mono hv _ c _ b a hb)
      (fun b => addAnc_adds hv _ s _ b a ha) hs _

theorem entryStep_mono {d : Doc} (hv : Table) (acc : EntryAcc) (tid x : Nat) (hx : x ∈ acc.toEnter) :
    x ∈ (entryStep d hv acc tid).toEnter :=
  entryStep_closure (closed_mem d x) hv acc tid hx

theorem entryStep_adds {d : Doc} (hv : Table) (acc : EntryAcc) (tid : Nat) :
    (∀ t ∈ (getTrans d tid).target, isHistoryState d t = false → t ∈ (entryStep d hv acc tid).toEnter) ∧
    (∀ s ∈ effTargets d hv (getTrans d tid), ∀ a ∈ getProperAncestors d s (transDomain d hv (getTrans d tid)),
      a ∈ (entryStep d hv acc tid).toEnter) := by
  -- `passes_adds` is stated for fuel `f + 1`: show the successor
  have hfuel : entryFuel d = (2 * d.states.length + 1) + 1 := by unfold entryFuel; omega
  unfold entryStep
  simp only
  rw [hfuel]
  exact passes_adds hv _ _ _ _ acc

/-- the entry set of a microstep contains, for every taken transition, its proper-state targets
    and all proper ancestors of its effective targets below its domain -/
theorem computeEntrySet_adds (d : Doc) (hv : Table) (ts : List Nat) (tid : Nat) (htid : tid ∈ ts) :
    (∀ t ∈ (getTrans d tid).target, isHistoryState d t = false → t ∈ (computeEntrySet d hv ts).toEnter) ∧
    (∀ s ∈ effTargets d hv (getTrans d tid), ∀ a ∈ getProperAncestors d s (transDomain d hv (getTrans d tid)),
      a ∈ (computeEntrySet d hv ts).toEnter) := by
  rw [computeEntrySet_eq]
  exact ⟨fun t ht hn => foldl_adds (P := fun a => t ∈ a.toEnter) (fun b u hb => entryStep_mono hv b u t hb)
      (fun b => (entryStep_adds hv b tid).1 t ht hn) htid {},
    fun s hs a ha => foldl_adds (P := fun x => a ∈ x.toEnter) (fun b u hb => entryStep_mono hv b u a hb)
      (fun b => (entryStep_adds hv b tid).2 s hs a ha) htid {}⟩

end Rfsm.Interp
