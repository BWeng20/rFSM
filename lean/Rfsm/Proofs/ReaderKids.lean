import Rfsm.Proofs.ReaderStates
/-!
C04 (c), children lists on views.  A `kids` list only grows by the declarations made directly inside its
state (`vdecl_kids`).  That each of them adds its state exactly once rests on an invariant (`KInv`) and on the
names of the forest not being declared yet (`Undecl`); "declared" is: the entry has a doc id, which a mere
reference does not give.  While a forest is read inside `p`, the entries that were declared before, other than
`p`, are untouched (`KExt p`), so the list of a subtree is final once the subtree has been read (`KidsT.ext`).
-/
namespace Rfsm.Reader
open Rfsm.Descriptor (Str)

/-- the name has not been declared: no entry of that name carries a doc id -/
def Undecl (vs : List V) (n : Str) : Prop := ∀ j v, vget vs j = some v → v.name = n → v.docId = 0

/-- the entry with index `q` exists and carries a doc id (`Undecl` is by name, this is by index) -/
def Decl (vs : List V) (q : Nat) : Prop := ∃ w, vget vs q = some w ∧ w.docId ≠ 0

theorem Decl.keep {p : Nat} {vs vs' : List V}
    (hk : ∀ j v, vget vs j = some v → v.docId ≠ 0 → j ≠ p → vget vs' j = some v)
    (hp : Decl vs' p) {q : Nat} (h : Decl vs q) : Decl vs' q := by
  obtain ⟨w, hw, hwd⟩ := h
  by_cases hqp : q = p
  · exact hqp ▸ hp
  · exact ⟨w, hk q w hw hwd hqp, hwd⟩

/-- only declared entries have children and all children are declared: so the entry that a declaration
declares has no children and is in no list yet -/
structure KInv (vs : List V) : Prop where
  ok : IdsOk vs
  nokids : ∀ j v, vget vs j = some v → v.docId = 0 → v.kids = []
  kidsDecl : ∀ j v k, vget vs j = some v → k ∈ v.kids → Decl vs k

/-- a table with one declared entry, as after `<scxml>` -/
theorem KInv.single (n : Str) (p d : Nat) (hd : d ≠ 0) : KInv [⟨1, n, p, d, []⟩] := by
  refine ⟨idsOk_single n p d [], ?_, ?_⟩
  · intro j v hj h0
    obtain rfl := List.mem_singleton.1 (mem_of_vget hj)
    exact absurd h0 hd
  · intro j v k hj hk
    obtain rfl := List.mem_singleton.1 (mem_of_vget hj)
    simp at hk

theorem undecl_single {n m : Str} (p d : Nat) (h : m ≠ n) : Undecl [⟨1, n, p, d, []⟩] m := by
  intro j v hj hm
  obtain rfl := List.mem_singleton.1 (mem_of_vget hj)
  exact absurd hm.symm h

theorem vref_kinv {vs : List V} (h : KInv vs) (n : Str) : KInv (vref vs n) := by
  refine vref_preserves n h ⟨idsOk_append h.ok n, ?_, ?_⟩
  · intro j v hv hd
    rw [vget_append] at hv
    split at hv
    · cases hv; rfl
    · exact h.nokids j v hv hd
  · intro j v k hv hk
    rw [vget_append] at hv
    split at hv
    · cases hv; simp at hk
    · obtain ⟨w, hw, hwd⟩ := h.kidsDecl j v k hv hk
      exact ⟨w, vget_append_left _ hw, hwd⟩

theorem vref_keep {vs : List V} (n : Str) {j : Nat} {v : V} (hv : vget vs j = some v) : vget (vref vs n) j = some v :=
  vref_preserves (P := fun vs' => vget vs' j = some v) n hv (vget_append_left _ hv)

theorem vref_undecl {vs : List V} (n : Str) {m : Str} (h : Undecl vs m) : Undecl (vref vs n) m := by
  refine vref_preserves (P := fun vs' => Undecl vs' m) n h ?_
  intro j v hv hm
  rw [vget_append] at hv
  split at hv
  · cases hv; rfl
  · exact h j v hv hm

/-- the declaration of an undeclared name inside a declared state `p`: `p` gets exactly one more
child, the declared entry has no children yet, every other declared entry is untouched -/
theorem vdecl_kids {vs : List V} (h : KInv vs) (n : Str) (p d : Nat) (hd : d ≠ 0) {vp : V}
    (hp : vget vs p = some vp) (hpd : vp.docId ≠ 0) (hu : Undecl vs n) :
    KInv (vdecl vs n p d).2 ∧ (vdecl vs n p d).1 ≠ p ∧
    (∃ vp', vget (vdecl vs n p d).2 p = some vp' ∧ vp'.kids = vp.kids ++ [(vdecl vs n p d).1] ∧
      vp'.docId = vp.docId) ∧
    (∃ vi, vget (vdecl vs n p d).2 (vdecl vs n p d).1 = some vi ∧ vi.kids = [] ∧ vi.docId = d) ∧
    (∀ j v, vget vs j = some v → v.docId ≠ 0 → j ≠ p → vget (vdecl vs n p d).2 j = some v) ∧
    (∀ m, m ≠ n → Undecl vs m → Undecl (vdecl vs n p d).2 m) ∧
    (∀ v, vget vs (vdecl vs n p d).1 = some v → v.docId = 0) := by
  obtain ⟨i, v0, _, hi, hv0, hn0⟩ := vref_entry h.ok n
  have h1 := vref_kinv h n
  have hp1 : vget (vref vs n) p = some vp := vref_keep n hp
  -- the entry that gets declared carries no doc id: it has no children, is not `p`, is no child of `p`
  have hd0 : v0.docId = 0 := vref_undecl n hu i v0 hv0 hn0
  have hi0 : ∀ v, vget (vref vs n) i = some v → v.docId = 0 := by
    intro v hv; rw [hv0] at hv; cases hv; exact hd0
  have hk0 : v0.kids = [] := h1.nokids i v0 hv0 hd0
  have hip : i ≠ p := fun e => hpd (hi0 vp (e ▸ hp1))
  have hnotin : ¬ i ∈ vp.kids := by
    intro hin
    obtain ⟨w, hw, hwd⟩ := h1.kidsDecl p vp i hp1 hin
    exact hwd (hi0 w hw)
  rw [vdecl_eq vs n p d (le_of_vget hp).1 hi]
  generalize hvs' : vmod (vmod (vref vs n) i _) p _ = vs'
  have hgp : vget vs' p = some { vp with kids := vp.kids ++ [i] } := by
    rw [← hvs', vget_vmod, vget_vmod]; simp [hip.symm, hp1, hnotin]
  have hgi : vget vs' i = some { v0 with docId := d, parent := p } := by
    rw [← hvs', vget_vmod, vget_vmod]; simp [hip, hv0]
  have hgo : ∀ j, j ≠ p → j ≠ i → vget vs' j = vget (vref vs n) j := by
    intro j hjp hji; rw [← hvs', vget_vmod, vget_vmod, if_neg hjp, if_neg hji]
  have hcases : ∀ j v, vget vs' j = some v → (j = p ∧ v = { vp with kids := vp.kids ++ [i] }) ∨
      (j = i ∧ v = { v0 with docId := d, parent := p }) ∨ (j ≠ p ∧ j ≠ i ∧ vget (vref vs n) j = some v) := by
    intro j v hv
    by_cases hjp : j = p
    · rw [hjp, hgp] at hv; exact .inl ⟨hjp, (Option.some.inj hv).symm⟩
    · by_cases hji : j = i
      · rw [hji, hgi] at hv; exact .inr (.inl ⟨hji, (Option.some.inj hv).symm⟩)
      · rw [hgo j hjp hji] at hv; exact .inr (.inr ⟨hjp, hji, hv⟩)
  -- a declared entry other than `p` is untouched
  have hkeep : ∀ j v, vget (vref vs n) j = some v → v.docId ≠ 0 → j ≠ p → vget vs' j = some v := by
    intro j v hv hvd hjp
    rw [hgo j hjp (fun e => hvd (hi0 v (e ▸ hv)))]; exact hv
  have hdecl : ∀ k, Decl (vref vs n) k → Decl vs' k := fun k => Decl.keep hkeep ⟨_, hgp, hpd⟩
  refine ⟨⟨?_, ?_, ?_⟩, hip, ⟨_, hgp, rfl, rfl⟩, ⟨_, hgi, hk0, rfl⟩, fun j v hv => hkeep j v (vref_keep n hv),
    ?_, fun v hv => hi0 v (vref_keep n hv)⟩
  · exact hvs' ▸ idsOk_vmod (idsOk_vmod h1.ok _ _ (by intro _; rfl)) _ _ (by intro _; rfl)
  · intro j v hv hdz
    rcases hcases j v hv with ⟨_, rfl⟩ | ⟨_, rfl⟩ | ⟨_, _, hv⟩
    · exact absurd hdz hpd
    · exact absurd hdz hd
    · exact h1.nokids j v hv hdz
  · intro j v k hv hk
    rcases hcases j v hv with ⟨_, rfl⟩ | ⟨_, rfl⟩ | ⟨_, _, hv⟩
    · rcases List.mem_append.1 hk with hk | hk
      · exact hdecl k (h1.kidsDecl p vp k hp1 hk)
      · obtain rfl := List.mem_singleton.1 hk
        exact ⟨_, hgi, hd⟩
    · simp [hk0] at hk
    · exact hdecl k (h1.kidsDecl j v k hv hk)
  · intro m hmn hum j v hv hvm
    have hum1 := vref_undecl n hum
    rcases hcases j v hv with ⟨_, rfl⟩ | ⟨_, rfl⟩ | ⟨_, _, hv⟩
    · exact hum1 p vp hp1 hvm
    · exact absurd (hvm.symm.trans hn0) hmn
    · exact hum1 j v hv hvm

def ST.name : ST → Str
  | .node n _ _ => n

def idOf (vs : List V) (n : Str) : Nat := (vfind vs n).getD 0

mutual
/-- every state of the tree is declared, is none of the indices `Q`, and its children list is the
list of the ids of its child states, in document order.  `Q`: the open ancestors of what is being read, the only
declared entries that may still change (`KidsT.ext`). -/
def KidsT (vs : List V) (Q : List Nat) : ST → Prop
  | .node n _ ks =>
    ∃ i v, vfind vs n = some i ∧ vget vs i = some v ∧ v.docId ≠ 0 ∧ i ∉ Q ∧
      v.kids = ks.map (fun t => idOf vs t.name) ∧ KidsF vs Q ks
def KidsF (vs : List V) (Q : List Nat) : List ST → Prop
  | [] => True
  | t :: r => KidsT vs Q t ∧ KidsF vs Q r
end

/-- names keep their ids; declared entries other than `q` are untouched -/
structure KExt (q : Nat) (vs vs' : List V) : Prop where
  find : ∀ m j, vfind vs m = some j → vfind vs' m = some j
  keep : ∀ j v, vget vs j = some v → v.docId ≠ 0 → j ≠ q → vget vs' j = some v

theorem idOf_stable {vs vs' : List V} (hf : ∀ m j, vfind vs m = some j → vfind vs' m = some j) {n : Str} {i : Nat}
    (h : vfind vs n = some i) : idOf vs' n = idOf vs n := by
  simp [idOf, h, hf n i h]

mutual
theorem KidsT.ext {q : Nat} {vs vs' : List V} {Q : List Nat} (he : KExt q vs vs') (hq : q ∈ Q) :
    (t : ST) → KidsT vs Q t → KidsT vs' Q t ∧ idOf vs' t.name = idOf vs t.name
  | .node n tg ks, hg => by
    simp only [KidsT] at *
    obtain ⟨i, v, hf, hv, hd, hiQ, hk, hks⟩ := hg
    obtain ⟨hks', hids⟩ := KidsF.ext he hq ks hks
    refine ⟨⟨i, v, he.find n i hf, he.keep i v hv hd (fun e => hiQ (e ▸ hq)), hd, hiQ, ?_, hks'⟩, ?_⟩
    · rw [hk]; exact hids.symm
    · simp [ST.name, idOf_stable he.find hf]
theorem KidsF.ext {q : Nat} {vs vs' : List V} {Q : List Nat} (he : KExt q vs vs') (hq : q ∈ Q) :
    (ts : List ST) → KidsF vs Q ts →
      KidsF vs' Q ts ∧ ts.map (fun t => idOf vs' t.name) = ts.map (fun t => idOf vs t.name)
  | [], _ => by simp [KidsF]
  | t :: r, hg => by
    simp only [KidsF] at *
    obtain ⟨h1, e1⟩ := KidsT.ext he hq t hg.1
    obtain ⟨h2, e2⟩ := KidsF.ext he hq r hg.2
    exact ⟨⟨h1, h2⟩, by simp [e1, e2]⟩
end

mutual
theorem KidsT.mono {vs : List V} {Q Q' : List Nat} (h : ∀ q ∈ Q', q ∈ Q) : (t : ST) → KidsT vs Q t → KidsT vs Q' t
  | .node n tg ks, hg => by
    simp only [KidsT] at *
    obtain ⟨i, v, hf, hv, hd, hiQ, hk, hks⟩ := hg
    exact ⟨i, v, hf, hv, hd, fun hi => hiQ (h i hi), hk, KidsF.mono h ks hks⟩
theorem KidsF.mono {vs : List V} {Q Q' : List Nat} (h : ∀ q ∈ Q', q ∈ Q) : (ts : List ST) → KidsF vs Q ts → KidsF vs Q' ts
  | [], _ => by simp [KidsF]
  | t :: r, hg => by
    simp only [KidsF] at *
    exact ⟨KidsT.mono h t hg.1, KidsF.mono h r hg.2⟩
end

theorem KExt.trans {q : Nat} {a b c : List V} (h1 : KExt q a b) (h2 : KExt q b c) : KExt q a c :=
  ⟨fun m j h => h2.find m j (h1.find m j h), fun j v hv hd hj => h2.keep j v (h1.keep j v hv hd hj) hd hj⟩

/-- what reading a forest `ts` inside the declared state `p` establishes about children lists; `un`: the names
the forest may declare; `inv`, `ext`, `und` are what reading the next sibling needs -/
structure KPost (Q : List Nat) (p : Nat) (vp : V) (vs vs' : List V) (ts : List ST) (un : List Str) : Prop where
  inv : KInv vs'
  ext : KExt p vs vs'
  par : ∃ vp', vget vs' p = some vp' ∧ vp'.kids = vp.kids ++ ts.map (fun t => idOf vs' t.name) ∧ vp'.docId = vp.docId
  good : KidsF vs' Q ts
  und : ∀ m, m ∉ un → Undecl vs m → Undecl vs' m

mutual
theorem amT_kids : (t : ST) → (p : Nat) → (vs : List V) → (d : Nat) → (Q : List Nat) → (vp : V) →
    KInv vs → d ≠ 0 → vget vs p = some vp → vp.docId ≠ 0 →
    (∀ q ∈ Q, Decl vs q) → (namesT t).Nodup → (∀ n ∈ namesT t, Undecl vs n) →
    KPost Q p vp vs (amT t p vs d) [t] (namesT t)
  | .node n tg ks, p, vs, d, Q, vp, h, hd, hp, hpd, hQ, hnd, hun => by
    simp only [namesT, List.nodup_cons] at hnd
    have hp0 : p ≠ 0 := (le_of_vget hp).1
    obtain ⟨hk1, hip, ⟨vp1, hvp1, hkids1, hdoc1⟩, ⟨vi, hvi, hvik, hvid⟩, hkeep1, hund1, hiund⟩ :=
      vdecl_kids h n p d hd hp hpd (hun n (by simp [namesT]))
    obtain ⟨he1, _, _, hf1, _⟩ := vdecl_spec h.ok n p d hp0
    have hpd1 : vp1.docId ≠ 0 := by rw [hdoc1]; exact hpd
    have hvid0 : vi.docId ≠ 0 := by rw [hvid]; exact hd
    -- the references of the transition
    have hk2 : KInv (vtrans tg (vdecl vs n p d).2) := vtrans_preserves (P := KInv) (fun _ n h => vref_kinv h n) tg hk1
    have hkeep2 : ∀ j v, vget (vdecl vs n p d).2 j = some v → vget (vtrans tg (vdecl vs n p d).2) j = some v :=
      fun j v hv => vtrans_preserves (P := fun vs' => vget vs' j = some v) (fun _ n h => vref_keep n h) tg hv
    have hund2 : ∀ m, Undecl (vdecl vs n p d).2 m → Undecl (vtrans tg (vdecl vs n p d).2) m :=
      fun m hm => vtrans_preserves (P := fun vs' => Undecl vs' m) (fun _ n h => vref_undecl n h) tg hm
    have he2 : KExt p vs (vtrans tg (vdecl vs n p d).2) :=
      ⟨fun m j hm => (vtrans_ext hk1.ok tg).find m j (he1.find m j hm),
        fun j v hv hvd hjp => hkeep2 _ _ (hkeep1 j v hv hvd hjp)⟩
    -- the children, inside the new state
    have hQ2 : ∀ q ∈ (vdecl vs n p d).1 :: Q, Decl (vtrans tg (vdecl vs n p d).2) q := by
      intro q hq
      rcases List.mem_cons.1 hq with rfl | hq
      · exact ⟨vi, hkeep2 _ _ hvi, hvid0⟩
      · exact Decl.keep he2.keep ⟨vp1, hkeep2 _ _ hvp1, hpd1⟩ (hQ q hq)
    have hP := amF_kids ks (vdecl vs n p d).1 (vtrans tg (vdecl vs n p d).2) (d + if tg.isSome then 2 else 1)
      ((vdecl vs n p d).1 :: Q) vi hk2 (by split <;> omega) (hkeep2 _ _ hvi) hvid0 (by simp) hQ2 hnd.2
      (fun m hm => hund2 m (hund1 m (fun e => hnd.1 (e ▸ hm)) (hun m (by simp [namesT, hm]))))
    rw [amT_node]
    generalize amF _ _ _ _ = vs3 at hP ⊢
    obtain ⟨vi3, hvi3, hvi3k, hvi3d⟩ := hP.par
    have hfn : vfind vs3 n = some (vdecl vs n p d).1 := hP.ext.find n _ ((vtrans_ext hk1.ok tg).find n _ hf1)
    have hiQ : (vdecl vs n p d).1 ∉ Q := by
      intro hi
      obtain ⟨w, hw, hwd⟩ := hQ _ hi
      exact hwd (hiund w hw)
    refine ⟨hP.inv, ⟨fun m j hm => hP.ext.find m j (he2.find m j hm), ?_⟩, ?_, ?_, ?_⟩
    · intro j v hv hvd hjp
      refine hP.ext.keep j v (he2.keep j v hv hvd hjp) hvd ?_
      intro e; subst e; exact hvd (hiund v hv)
    · exact ⟨vp1, hP.ext.keep p vp1 (hkeep2 _ _ hvp1) hpd1 (fun e => hip e.symm),
        by simp [hkids1, ST.name, idOf, hfn], hdoc1⟩
    · simp only [KidsF, and_true, KidsT]
      exact ⟨_, vi3, hfn, hvi3, by rw [hvi3d]; exact hvid0, hiQ, by rw [hvi3k, hvik]; simp,
        KidsF.mono (fun q hq => List.mem_cons_of_mem _ hq) ks hP.good⟩
    · intro m hm hum
      simp only [namesT, List.mem_cons, not_or] at hm
      exact hP.und m hm.2 (hund2 m (hund1 m hm.1 hum))
theorem amF_kids : (ts : List ST) → (p : Nat) → (vs : List V) → (d : Nat) → (Q : List Nat) → (vp : V) →
    KInv vs → d ≠ 0 → vget vs p = some vp → vp.docId ≠ 0 → p ∈ Q →
    (∀ q ∈ Q, Decl vs q) → (namesF ts).Nodup → (∀ n ∈ namesF ts, Undecl vs n) →
    KPost Q p vp vs (amF ts p vs d) ts (namesF ts)
  | [], p, vs, d, Q, vp, h, _, hp, _, _, _, _, _ => by
    simp only [amF]
    exact ⟨h, ⟨fun _ _ h => h, fun _ _ hv _ _ => hv⟩, ⟨vp, hp, by simp, rfl⟩, by simp [KidsF],
      fun _ _ hu => hu⟩
  | t :: r, p, vs, d, Q, vp, h, hd, hp, hpd, hpQ, hQ, hnd, hun => by
    simp only [namesF, List.nodup_append] at hnd
    have h1 := amT_kids t p vs d Q vp h hd hp hpd hQ hnd.1 (fun n hn => hun n (by simp [namesF, hn]))
    obtain ⟨vp1, hvp1, hk1, hd1⟩ := h1.par
    have hpd1 : vp1.docId ≠ 0 := by rw [hd1]; exact hpd
    have h2 := amF_kids r p (amT t p vs d) (d + sizeT t) Q vp1 h1.inv (by omega) hvp1 hpd1 hpQ
      (fun q hq => Decl.keep h1.ext.keep ⟨vp1, hvp1, hpd1⟩ (hQ q hq)) hnd.2.1
      (fun n hn => h1.und n (fun hn' => hnd.2.2 n hn' n hn rfl) (hun n (by simp [namesF, hn])))
    obtain ⟨vp2, hvp2, hk2, hd2⟩ := h2.par
    have hgood1 : KidsF (amT t p vs d) Q [t] := h1.good
    simp only [KidsF, and_true] at hgood1
    obtain ⟨hg1, hid1⟩ := KidsT.ext h2.ext hpQ t hgood1
    simp only [amF]
    refine ⟨h2.inv, h1.ext.trans h2.ext, ⟨vp2, hvp2, by rw [hk2, hk1]; simp [hid1], by rw [hd2, hd1]⟩, ?_, ?_⟩
    · simp only [KidsF]; exact ⟨hg1, h2.good⟩
    · intro m hm hum
      simp only [namesF, List.mem_append, not_or] at hm
      exact h2.und m hm.2 (h1.und m hm.1 hum)
end

end Rfsm.Reader
