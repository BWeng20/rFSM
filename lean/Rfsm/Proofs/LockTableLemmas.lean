import Rfsm.Model.LockTable
import Rfsm.Proofs.LocksLemmas
/-!
From the edge table to the lock machine: a table that admits a class rank makes every conforming
program `OrderedP`; a class cycle in the table excludes every rank.
-/
namespace Rfsm.Locks

theorem ltLk_irrefl (cr : Cls → Nat) (a : Lk) : ¬ ltLk cr a a := by
  rintro (h | ⟨_, h⟩) <;> omega

theorem ltLk_trans (cr : Cls → Nat) (a b c : Lk) (h1 : ltLk cr a b) (h2 : ltLk cr b c) :
    ltLk cr a c := by
  rcases h1 with h1 | ⟨e1, h1⟩ <;> rcases h2 with h2 | ⟨e2, h2⟩
  · exact Or.inl (by omega)
  · exact Or.inl (by rw [← e2]; exact h1)
  · exact Or.inl (by rw [e1]; exact h2)
  · exact Or.inr ⟨e1.trans e2, by omega⟩

theorem relOk_ne {r : Rel} {i j : Nat} (hr : r ≠ .any) (h : relOk r i j = true) : i ≠ j := by
  cases r with
  | any => exact absurd rfl hr
  | lt => exact Nat.ne_of_lt (by simpa [relOk] using h)
  | ne => simpa [relOk] using h

/-- a justified table edge justifies each of its instances -/
theorem edge_sound {cr : Cls → Nat} {e : Edge} {h l : Lk} {pv : Lk → Option Nat} {u : Nat}
    (hok : edgeOk cr e = true) (hcov : e.covers h l = true)
    (hpriv : e.priv = true → pv h = some u) :
    ltLk cr h l ∨ (pv h = some u ∧ h ≠ l) := by
  simp only [Edge.covers, Bool.and_eq_true, beq_iff_eq, Bool.or_eq_true, bne_iff_ne, ne_eq] at hcov
  obtain ⟨⟨hh, ha⟩, hrel⟩ := hcov
  simp only [edgeOk, Edge.exempt, Bool.or_eq_true, decide_eq_true_eq, Bool.and_eq_true,
    beq_iff_eq, bne_iff_ne, ne_eq] at hok
  rcases hok with hlt | ⟨hsame, hr⟩ | ⟨hp, hx⟩
  · left; left
    rw [← hh, ← ha]; exact hlt
  · left; right
    have hc : h.cls = l.cls := by rw [← hh, ← ha]; exact hsame
    exact ⟨hc, by simpa [hr, relOk] using hrel.resolve_left (absurd hc)⟩
  · -- private: the classes differ, or the relation makes the instances differ
    refine Or.inr ⟨hpriv hp, ?_⟩
    rintro rfl
    rcases hrel with hrel | hrel
    · exact hrel rfl
    · exact hx.elim (fun hx => hx (hh.trans ha.symm)) (fun hx => relOk_ne hx hrel rfl)

theorem orderedP_of_acqEdges {L : Type} [DecidableEq L] {lt : L → L → Prop}
    {pv : L → Option Nat} {u : Nat} :
    ∀ (p : List (Op L)) (held : List L),
      (∀ l, Op.acquire l ∈ p → pv l = none ∨ pv l = some u) →
      (∀ hl ∈ acqEdges held p, lt hl.1 hl.2 ∨ (pv hl.1 = some u ∧ hl.1 ≠ hl.2)) →
      OrderedP lt pv u held p
  | [], _, _, _ => trivial
  | .acquire l :: rest, held, hpv, he => by
    refine ⟨hpv l (by simp), ?_, ?_⟩
    · intro h hh
      exact he (h, l) (by simp [acqEdges]; exact Or.inl hh)
    · apply orderedP_of_acqEdges rest (l :: held)
      · intro l' hl'
        exact hpv l' (List.mem_cons_of_mem _ hl')
      · intro hl hhl
        exact he hl (by simp only [acqEdges, List.mem_append]; exact Or.inr hhl)
  | .release l :: rest, held, hpv, he => by
    apply orderedP_of_acqEdges rest (held.erase l)
    · intro l' hl'
      exact hpv l' (List.mem_cons_of_mem _ hl')
    · intro hl hhl
      exact he hl (by simpa [acqEdges] using hhl)

theorem respectsPrivacy_sound {pv : Lk → Option Nat} {u : Nat} {p : List (Op Lk)}
    (h : respectsPrivacy pv u p = true) : ∀ l, Op.acquire l ∈ p → pv l = none ∨ pv l = some u := by
  intro l hl
  have := List.all_eq_true.1 h _ hl
  simpa using this

/-- a program that conforms to the table follows the lock order `ltLk cr`, provided every edge of
the table is justified by `cr`, or has a private held lock while the program never re-locks -/
theorem conforms_orderedP {cr : Cls → Nat} {table : List Edge} {pv : Lk → Option Nat} {u : Nat}
    {p : List (Op Lk)} (hc : conformsB table pv u p = true)
    (hok : ∀ e ∈ table, edgeOk cr e = true ∨ (e.priv = true ∧ noRelockB p = true)) :
    OrderedP (ltLk cr) pv u [] p := by
  simp only [conformsB, Bool.and_eq_true] at hc
  apply orderedP_of_acqEdges p [] (respectsPrivacy_sound hc.1)
  intro hl hhl
  obtain ⟨e, he, hx⟩ := List.any_eq_true.1 (List.all_eq_true.1 hc.2 hl hhl)
  simp only [Bool.and_eq_true, Bool.or_eq_true, Bool.not_eq_true', beq_iff_eq] at hx
  have hpriv : e.priv = true → pv hl.1 = some u := fun hpt => hx.2.resolve_left (by simp [hpt])
  rcases hok e he with hok | ⟨hp, hn⟩
  · exact edge_sound hok hx.1 hpriv
  · exact Or.inr ⟨hpriv hp, by simpa using List.all_eq_true.1 hn hl hhl⟩

/-! ### cycles exclude ranks -/

theorem pick_some {table : List Edge} {a b : Cls} (h : (pick table a b).isSome = true) :
    ∃ e ∈ table, e.held = a ∧ e.acq = b ∧ e.exempt = false := by
  cases hp : pick table a b with
  | none => rw [hp] at h; cases h
  | some e =>
    unfold pick at hp
    have hm := List.mem_of_find?_eq_some hp
    have hprop := List.find?_some hp
    simp only [Bool.and_eq_true, beq_iff_eq, Bool.not_eq_true'] at hprop
    exact ⟨e, hm, hprop.1.1, hprop.1.2, hprop.2⟩

theorem pick_lt {cr : Cls → Nat} {table : List Edge} {a b : Cls} (hadm : admits cr table = true)
    (h : (pick table a b).isSome = true) : cr a < cr b := by
  obtain ⟨e, he, rfl, rfl, hex⟩ := pick_some h
  have hok : edgeOk cr e = true := List.all_eq_true.1 hadm e he
  simpa [edgeOk, hex] using hok

theorem classCycleFrom_lt {cr : Cls → Nat} {table : List Edge} (hadm : admits cr table = true)
    (first : Cls) : ∀ (cs : List Cls) (c : Cls), classCycleFrom table first (c :: cs) = true →
      cr c < cr first
  | [], c, h => pick_lt hadm (by simpa [classCycleFrom] using h)
  | d :: rest, c, h => by
    simp only [classCycleFrom, Bool.and_eq_true] at h
    have h1 := pick_lt hadm h.1
    have h2 := classCycleFrom_lt hadm first rest d h.2
    omega

theorem classCycle_not_admits {table : List Edge} {cs : List Cls}
    (h : classCycle table cs = true) (cr : Cls → Nat) : admits cr table = false := by
  cases hadm : admits cr table with
  | false => rfl
  | true =>
    cases cs with
    | nil => simp [classCycle] at h
    | cons c rest =>
      have := classCycleFrom_lt hadm c rest c (by simpa [classCycle] using h)
      omega

/-! ### from the model's Bool checkers to `order_live` -/

theorem systemNoRelock_sound {progs : List (List (Op Lk))} (h : systemNoRelock progs = true) :
    ∀ (u : Nat) (p : List (Op Lk)), progs[u]? = some p → noRelockB p = true := by
  intro u p hp
  exact List.all_eq_true.1 h p (List.mem_of_getElem? hp)

theorem systemConforms_sound {table : List Edge} {pv : Lk → Option Nat}
    {progs : List (List (Op Lk))} (h : systemConforms table pv progs = true) :
    ∀ (u : Nat) (p : List (Op Lk)), progs[u]? = some p → conformsB table pv u p = true := by
  intro u p hp
  have hlt : u < progs.length := (List.getElem?_eq_some_iff.1 hp).1
  have := List.all_eq_true.1 h u (List.mem_range.2 hlt)
  rw [hp] at this
  exact this

theorem balancedB_sound {L : Type} [DecidableEq L] :
    ∀ (p : List (Op L)) (held : List L), balancedB held p = true → Balanced held p
  | [], held, h => by simpa [balancedB, Balanced] using h
  | .acquire l :: rest, held, h => balancedB_sound rest (l :: held) h
  | .release l :: rest, held, h => balancedB_sound rest (held.erase l) h

theorem systemBalanced_sound {progs : List (List (Op Lk))} (h : systemBalanced progs = true) :
    ∀ (u : Nat) (p : List (Op Lk)), progs[u]? = some p → Balanced [] p := by
  intro u p hp
  exact balancedB_sound p [] (List.all_eq_true.1 h p (List.mem_of_getElem? hp))

theorem admitsModRelock_ok {cr : Cls → Nat} {table : List Edge}
    (h : admitsModRelock cr table = true) : ∀ e ∈ table, edgeOk cr e = true ∨ e.priv = true :=
  fun e he => by simpa [edgeOkModRelock] using List.all_eq_true.1 h e he

/-- **the table theorem**: a system that conforms to a table is deadlock-free in every reachable
state and, if balanced, can always step and finish, provided every edge of the table is justified
by the class rank `cr`, or has a private held lock while no program re-locks -/
theorem table_live {cr : Cls → Nat} {table : List Edge} {pv : Lk → Option Nat}
    {progs : List (List (Op Lk))} (hconf : systemConforms table pv progs = true)
    (hok : ∀ e ∈ table, edgeOk cr e = true ∨ (e.priv = true ∧ systemNoRelock progs = true))
    {s : Sys Lk} (hr : Reach (start progs) s) :
    ¬ Deadlock s ∧
    (systemBalanced progs = true →
      (unfinished s → ∃ t s', step s t = some s') ∧
      ∃ sched s', exec s sched = some s' ∧ allFinished s' = true) := by
  have h := order_live (ltLk_irrefl cr) (ltLk_trans cr) (pv := pv) (progs := progs)
    (fun u p hp => conforms_orderedP (systemConforms_sound hconf u p hp) fun e he =>
      (hok e he).imp_right fun h => ⟨h.1, systemNoRelock_sound h.2 u p hp⟩) hr
  exact ⟨h.1, fun hbal => h.2 (systemBalanced_sound hbal)⟩

end Rfsm.Locks
