import Rfsm.Model.ExprEval
/-!
Lemmas about the operator table of M-EXPR (`operation`); from `CacheOK` on, about its compile cache
(`compile_eq_parse`, `dmExecute_congr`).
-/
namespace Rfsm.Expr

def InI64 (v : Int) : Prop := i64Min ≤ v ∧ v ≤ i64Max

theorem clampI64_inI64 (v : Int) : InI64 (clampI64 v) := by
  unfold clampI64 InI64 i64Min i64Max
  split
  · omega
  · split <;> omega

theorem clampI64_of_inI64 {v : Int} (h : InI64 v) : clampI64 v = v := by
  unfold InI64 i64Min i64Max at h
  unfold clampI64 i64Min i64Max
  split
  · omega
  · split <;> omega

theorem clampI64_above {v : Int} (h : i64Max < v) : clampI64 v = i64Max := by
  have : ¬ v < i64Min := by unfold i64Min i64Max at *; omega
  rw [clampI64, if_neg this, if_pos h]

theorem clampI64_below {v : Int} (h : v < i64Min) : clampI64 v = i64Min := by
  rw [clampI64, if_pos h]

variable {D : Type} (ops : DoubleOps D) (cells : Cells D) (held : List Nat)

theorem operation_plus_int (a b : Int) :
    operation ops cells held .plus (.int a) (.int b) = .val (.int (clampI64 (a + b))) [] := rfl

theorem operation_minus_int (a b : Int) :
    operation ops cells held .minus (.int a) (.int b) = .val (.int (clampI64 (a - b))) [] := rfl

theorem operation_multiply_int (a b : Int) :
    operation ops cells held .multiply (.int a) (.int b) = .val (.int (clampI64 (a * b))) [] := rfl

theorem operation_modulus_int (a b : Int) (hb : b ≠ 0) :
    operation ops cells held .modulus (.int a) (.int b) = .val (.int (Int.tmod a b)) [] := by
  simp only [operation, isNumeric, Bool.and_self, if_true, arith, remI64]
  have h1 : (b == 0) = false := by simp [hb]
  simp [h1]

/-- a zero divisor yields an error value (it used to panic) -/
theorem operation_modulus_zero (a : Int) :
    operation ops cells held .modulus (.int a) (.int 0) = .val (.error .remUndefined) [] := rfl

/-- `i64::MIN % -1` is 0 (it used to panic) -/
theorem operation_modulus_min :
    operation ops cells held .modulus (.int i64Min) (.int (-1)) = .val (.int 0) [] := by
  rw [operation_modulus_int ops cells held i64Min (-1) (by decide)]; rfl

theorem operation_divide_int (a b : Int) :
    operation ops cells held .divide (.int a) (.int b) =
      if ops.isNaN (ops.div (ops.ofInt a) (ops.ofInt b)) then .val (.error .divideNaN) []
      else .val (.dbl (ops.div (ops.ofInt a) (ops.ofInt b))) [] := rfl

theorem operation_less_str (s t : Str) :
    operation ops cells held .less (.str s) (.str t) = .val (.bool (strLt s t)) [] := rfl

/-- an Integer and a Double are compared through `as_number` -/
theorem operation_less_int_dbl (a : Int) (b : D) :
    operation ops cells held .less (.int a) (.dbl b) = .val (.bool (ops.lt (ops.ofInt a) b)) [] := rfl

theorem arith_val (o : Op) (fd : D → D → D) (fi : Int → Int → OpRes D) (l r : Data D)
    (hfi : ∀ a b, ∃ d n, fi a b = .val d n) : ∃ d n, arith ops o fd fi l r = .val d n := by
  unfold arith
  split <;> first | exact ⟨_, _, rfl⟩ | exact hfi _ _

theorem remI64_val (a b : Int) : ∃ d n, remI64 (D := D) a b = .val d n := by
  unfold remI64; split <;> exact ⟨_, _, rfl⟩

/-- every operator but `==` / `!=` returns a value (`.val`), neither `.deadlock` nor `.fuelOut`; integer `%`,
the one source of a panic in the Rust code, yields an error value -/
theorem operation_val (o : Op) (l r : Data D) (h1 : o ≠ .equal) (h2 : o ≠ .notEqual) :
    ∃ d n, operation ops cells held o l r = .val d n := by
  unfold operation
  cases o <;> simp only [] <;> try contradiction
  all_goals
    repeat' split
    all_goals first
      | exact ⟨_, _, rfl⟩
      | exact arith_val ops _ _ _ _ _ (fun _ _ => ⟨_, _, rfl⟩)
      | exact arith_val ops _ _ _ _ _ remI64_val

/-- "a source id determines its text": every cached entry is the parse of its id's text -/
def CacheOK (textOf : Nat → Str) (cache : Cache) : Prop :=
  ∀ id e, cacheGet cache id = some e → parse (textOf id) = .ok e

theorem cacheOK_nil (textOf : Nat → Str) : CacheOK textOf [] := by
  intro id e h; simp [cacheGet] at h

theorem cacheOK_cons {textOf : Nat → Str} {cache : Cache} (h : CacheOK textOf cache) {id : Nat}
    {e : Expr} (hp : parse (textOf id) = .ok e) : CacheOK textOf ((id, e) :: cache) := by
  intro id' e' h'
  simp only [cacheGet] at h'
  split at h'
  · obtain rfl : id = id' := by simpa using ‹(id == id') = true›
    cases h'
    exact hp
  · exact h id' e' h'

/-- `compile` returns what `parse` returns, and enters only that into the cache -/
theorem compile_eq_parse (textOf : Nat → Str) (cache : Cache) (h : CacheOK textOf cache) (id : Nat) :
    (compile cache (textOf id) id).2 = parse (textOf id) ∧
    CacheOK textOf (compile cache (textOf id) id).1 := by
  unfold compile
  split
  · exact ⟨rfl, h⟩
  · split
    · exact ⟨(h id _ ‹_›).symm, h⟩
    · split
      · exact ⟨‹_ = _›.symm, cacheOK_cons h ‹_›⟩
      · exact ⟨rfl, h⟩

/-- the datamodel's `execute` looks at the cache only through `compile`: with the same compiled
expression it returns the same and leaves the same store, whatever else the caches hold -/
theorem dmExecute_congr (st : St D) {c1 c2 : Cache} {text : Str} {id : Nat}
    (h : (compile c1 text id).2 = (compile c2 text id).2) :
    (dmExecute ops ⟨st, c1⟩ text id).2 = (dmExecute ops ⟨st, c2⟩ text id).2 ∧
    (dmExecute ops ⟨st, c1⟩ text id).1.st = (dmExecute ops ⟨st, c2⟩ text id).1.st := by
  unfold dmExecute dmExecuteInternal
  generalize compile c1 text id = k1 at h ⊢
  generalize compile c2 text id = k2 at h ⊢
  obtain ⟨k1, p⟩ := k1
  obtain ⟨k2, _⟩ := k2
  subst h
  cases p with
  | ok e =>
    simp only
    cases eval ops e false st with
    | mk st' o =>
      cases o with
      | ok v => cases hd : st'.get v.id <;> simp [hd]
      | _ => simp
  | _ => exact ⟨rfl, rfl⟩

end Rfsm.Expr
