import Rfsm.Model.ExprParser
import Rfsm.Proofs.ExprLexerLemmas
/-!
The parser model is total (`parse_total`).  It never reaches `panic!("Internal error")`: the parser
stack only ever holds expressions, identifiers, operators and the `.` separator (`StackOK`), `scan`
accepts exactly those and hands on a stack of the same kind (`scan_ne_none`, `scan_some`).  It never
runs out of fuel: `stackToExpr` shortens the stack on every round (`stackToExpr_total`), every step
of the token loop consumes input (`nextToken_progress`), and every nested call starts behind a
consumed bracket.  It never reports `livelock`: an operator token has consumed its character.  The
three facts are one invariant of the token loop (`parser_allowed`).
-/
namespace Rfsm.Expr

def ItemOK : Item → Bool
  | .ex _ => true
  | .tok (.identifier _) => true
  | .tok (.operator _) => true
  | .tok (.separator c) => c == 46
  | .tok _ => false

def StackOK (stack : List Item) : Prop := ∀ it ∈ stack, ItemOK it = true

theorem StackOK_nil : StackOK [] := nofun

theorem StackOK_cons {it : Item} {s : List Item} : StackOK (it :: s) ↔ ItemOK it = true ∧ StackOK s :=
  List.forall_mem_cons

theorem StackOK_append {a b : List Item} : StackOK (a ++ b) ↔ StackOK a ∧ StackOK b :=
  List.forall_mem_append

theorem StackOK_push {s : List Item} (hs : StackOK s) {it : Item} (hi : ItemOK it = true) :
    StackOK (s ++ [it]) :=
  StackOK_append.2 ⟨hs, StackOK_cons.2 ⟨hi, StackOK_nil⟩⟩

theorem StackOK_pushOpt {s : List Item} {e : Option Expr} : StackOK (pushOpt s e) ↔ StackOK s := by
  cases e <;> simp [pushOpt, StackOK_append, StackOK_cons, StackOK_nil, ItemOK]

theorem StackOK_of_subset {s t : List Item} (h : t ⊆ s) (hs : StackOK s) : StackOK t :=
  fun it hi => hs it (h hi)

/-- the stack after a fold: a stretch of it replaced by an expression -/
theorem StackOK_splice {s : List Item} (hs : StackOK s) (n m : Nat) (e : Expr) :
    StackOK (s.take n ++ .ex e :: s.drop m) :=
  StackOK_append.2 ⟨StackOK_of_subset (List.take_subset n s) hs,
    StackOK_cons.2 ⟨rfl, StackOK_of_subset (List.drop_subset m s) hs⟩⟩

theorem scan_some {stack : List Item} {si bi bp : Nat} {r : List Item} {i p : Nat}
    (h : scan stack si bi bp = some (r, i, p)) : r.length = stack.length ∧ StackOK r := by
  fun_induction scan stack si bi bp generalizing r i p
  case case1 => cases h; exact ⟨rfl, StackOK_nil⟩
  -- a separator other than `.`, a token that is no identifier, separator or operator: `none`
  case case5 | case7 => cases h
  all_goals
    rename_i ih
    obtain ⟨⟨r', i', p'⟩, h1, h2⟩ := Option.map_eq_some_iff.1 h
    cases h2
    exact ⟨congrArg (· + 1) (ih h1).1, StackOK_cons.2 ⟨by simp [ItemOK, *], (ih h1).2⟩⟩

theorem scan_ne_none {stack : List Item} (hs : StackOK stack) (si bi bp : Nat) :
    scan stack si bi bp ≠ none := by
  fun_induction scan stack si bi bp
  case case1 => simp
  -- the two branches that reject: their head is not `ItemOK`
  case case5 => exact absurd (hs _ List.mem_cons_self) ‹_›
  case case7 t _ _ _ => have := hs _ List.mem_cons_self; cases t <;> simp_all [ItemOK]
  all_goals
    rename_i ih
    simpa using ih (StackOK_cons.1 hs).2

theorem foldAt_some {stack : List Item} {idx : Nat} {f : Expr → Expr → Option Expr} {r : List Item}
    (h : foldAt stack idx f = some r) : r.length + 2 = stack.length ∧ (StackOK stack → StackOK r) := by
  unfold foldAt at h
  split at h
  · split at h
    · split at h
      · cases h
        refine ⟨?_, fun hs => StackOK_splice hs _ _ _⟩
        simp only [List.length_append, List.length_take, List.length_cons, List.length_drop]
        omega
      · cases h
    · cases h
  · cases h

/-- `stack_to_expression` with more rounds of fuel than the stack is long (every round shortens it)
ends with a result or an error; it panics only on a stack `scan` rejects -/
theorem stackToExpr_total {fuel : Nat} {stack : List Item} (h : stack.length < fuel) :
    (∃ e rest, stackToExpr fuel stack = .ok e rest) ∨ (∃ e, stackToExpr fuel stack = .err e) ∨
    (stackToExpr fuel stack = .panic ∧ ¬ StackOK stack) := by
  induction fuel generalizing stack with
  | zero => omega
  | succ fuel ih =>
    -- the next round works on what `scan` let through
    have next : ∀ {s' : List Item}, s'.length < fuel → StackOK s' →
        (∃ e rest, stackToExpr fuel s' = .ok e rest) ∨ (∃ e, stackToExpr fuel s' = .err e) ∨
        (stackToExpr fuel s' = .panic ∧ ¬ StackOK stack) := fun hl hs =>
      (ih hl).imp_right (Or.imp_right fun hp => absurd hs hp.2)
    rw [stackToExpr]
    split
    · exact .inl ⟨_, _, rfl⟩                     -- empty stack
    · split                                      -- `scan`
      · exact .inr (.inr ⟨rfl, fun hs => scan_ne_none hs 0 0 255 ‹_›⟩)
      · rename_i st bi bp hscan
        obtain ⟨hl, hs⟩ := scan_some hscan
        split                                    -- `bp < 255`: an operator or `.` found
        · split                                  -- by `st[bi]?`
          · split                                -- `!`: `bi + 1 < st.length`
            · split                              -- `st[bi + 1]?`
              · refine next ?_ (StackOK_splice hs _ _ _)
                simp only [List.length_append, List.length_take, List.length_cons, List.length_drop]
                omega
              · exact .inr (.inl ⟨_, rfl⟩)
            · exact .inr (.inl ⟨_, rfl⟩)
          · split                                -- binary operator: `foldAt`
            · rename_i hf
              exact next (by have := (foldAt_some hf).1; omega) ((foldAt_some hf).2 hs)
            · exact .inr (.inl ⟨_, rfl⟩)
          · split                                -- `.`: `foldAt`
            · rename_i hf
              exact next (by have := (foldAt_some hf).1; omega) ((foldAt_some hf).2 hs)
            · exact .inr (.inl ⟨_, rfl⟩)
          · exact .inr (.inl ⟨_, rfl⟩)           -- anything else
        · split                                  -- none found: `match st`
          · exact .inl ⟨_, _, rfl⟩
          · exact .inr (.inl ⟨_, rfl⟩)

theorem wrapExprs_ok (stop : Ch) (rest : Str) (l : List Expr) :
    ∃ e, wrapExprs stop rest l = .ok (stop, e, rest) := by
  cases l with
  | nil => exact ⟨none, rfl⟩
  | cons a as => cases as <;> exact ⟨_, rfl⟩

/-- what a parser function may return: `Q` holds of a result, `panic` only if `p`, `outOfFuel` only
if `f`, never `livelock` -/
def PRes.Allowed {α : Type} (Q : α → Prop) (p f : Prop) : PRes α → Prop
  | .ok a => Q a
  | .err _ => True
  | .panic => p
  | .livelock => False
  | .outOfFuel => f

theorem PRes.Allowed.mono {α : Type} {Q Q' : α → Prop} {p p' f f' : Prop} {r : PRes α}
    (h : r.Allowed Q p f) (hQ : ∀ a, Q a → Q' a) (hp : p → p') (hf : f → f') : r.Allowed Q' p' f' := by
  cases r <;> simp_all [PRes.Allowed]

/-- the rest is a suffix of the input, a proper one when a stop character other than NUL was read -/
def SubOK (inp : Str) (x : Ch × Option Expr × Str) : Prop :=
  x.2.2 <:+ inp ∧ (x.1 ≠ 0 → x.2.2.length < inp.length)

theorem finishSub_allowed (inp : Str) (stop : Ch) (rest : Str) (exprs : List Expr) (stack : List Item)
    (h1 : rest <:+ inp) (h2 : stop ≠ 0 → rest.length < inp.length) :
    (finishSub stop rest exprs stack).Allowed (SubOK inp) (¬ StackOK stack) False := by
  unfold finishSub
  rcases stackToExpr_total (Nat.lt_succ_self stack.length) with ⟨e, s, h⟩ | ⟨e, h⟩ | ⟨h, hn⟩ <;>
    simp only [stackFuel, h]
  · split
    · obtain ⟨e', he⟩ := wrapExprs_ok stop rest (addOpt exprs e)
      rw [he]; exact ⟨h1, h2⟩
    · trivial
  · trivial
  · exact hn

/-- the invariant of the three parser functions.  Fuel bounds the depth of the call chain: reading a
token costs one unit and shortens the input; the step from a list function into `parseSub` costs one
and consumes nothing, but the bracket in front of the list was consumed: two units per character.
A list function steps into `parseSub` on the same input: `+ 3` against `+ 2`.  Any positive constant
would do for the `2`; `parseFuel`'s `+ 4` is ample. -/
theorem parser_allowed (fuel : Nat) :
    (∀ stops inp exprs stack, (parseSub fuel stops inp exprs stack).Allowed (SubOK inp)
      (¬ StackOK stack) (fuel < 2 * inp.length + 2)) ∧
    (∀ stop inp acc, (parseArgs fuel stop inp acc).Allowed (fun x => x.2 <:+ inp) False
      (fuel < 2 * inp.length + 3)) ∧
    (∀ stop inp acc, (parseMembers fuel stop inp acc).Allowed (fun x => x.2 <:+ inp) False
      (fuel < 2 * inp.length + 3)) := by
  induction fuel with
  | zero =>
    refine ⟨?_, ?_, ?_⟩ <;> intros <;> simp [parseSub, parseArgs, parseMembers, PRes.Allowed]
  | succ fuel ih =>
    obtain ⟨ihS, ihA, ihM⟩ := ih
    -- the loop goes on behind a consumed token
    have next : ∀ stops {inp rest : Str} exprs {stack stack' : List Item},
        rest <:+ inp ∧ rest.length < inp.length → (StackOK stack → StackOK stack') →
        (parseSub fuel stops rest exprs stack').Allowed (SubOK inp) (¬ StackOK stack)
          (fuel + 1 < 2 * inp.length + 2) := fun stops inp rest exprs stack stack' hs hst =>
      (ihS stops rest exprs stack').mono
        (fun x hx => ⟨hx.1.trans hs.1, fun h => by have := hx.2 h; omega⟩)
        (fun h hs => h (hst hs)) (fun h => by omega)
    refine ⟨?_, ?_, ?_⟩
    · intro stops inp exprs stack
      have hsuf := nextToken_suffix stops inp
      have hp := nextToken_progress stops inp
      rw [parseSub]
      cases hnt : nextToken stops inp with
      | mk t rest =>
        rw [hnt] at hsuf hp
        simp only at hsuf hp
        have fin : ∀ stop, (stop ≠ 0 → rest.length < inp.length) →
            (finishSub stop rest exprs stack).Allowed (SubOK inp) (¬ StackOK stack)
              (fuel + 1 < 2 * inp.length + 2) := fun stop h =>
          (finishSub_allowed inp stop rest exprs stack hsuf h).mono (fun _ h => h) id False.elim
        cases t <;> simp only [reduceCtorEq, Token.separator.injEq, false_and, or_false, false_or] at hp
        case eoe => exact fin 0 (fun h => absurd rfl h)
        case error => trivial
        case null | tstring | boolean | int | dbl | identifier =>
          exact next stops exprs ⟨hsuf, hp⟩ (fun hs => StackOK_push hs rfl)
        case operator o =>
          simp only
          split
          · omega
          · exact next stops exprs ⟨hsuf, hp⟩ (fun hs => StackOK_push hs rfl)
        case exprSep =>
          rcases stackToExpr_total (Nat.lt_succ_self stack.length) with ⟨e, s, h⟩ | ⟨e, h⟩ | ⟨h, hn⟩ <;>
            simp only [stackFuel, h]
          · split
            · exact next stops _ ⟨hsuf, hp⟩ (fun _ => StackOK_nil)
            · trivial
          · trivial
          · exact hn
        case separator sep =>
          simp only
          split
          · exact fin sep (fun h => hp.resolve_right (fun h' => h h'.1))
          · have hl : rest.length < inp.length :=
              hp.resolve_right (fun h' => by simp_all)
            split
            · exact next stops exprs ⟨hsuf, hl⟩ (fun hs => StackOK_push hs rfl)
            · exact next stops exprs ⟨hsuf, hl⟩ id
        case bracket br =>
          -- a nested call starts behind the consumed bracket
          have nested : ∀ {α : Type} {r : PRes α} {g : α → Str},
              r.Allowed (fun x => g x <:+ rest) False (fuel < 2 * rest.length + 3) →
              r.Allowed (fun x => g x <:+ inp ∧ (g x).length < inp.length) False
                (fuel + 1 < 2 * inp.length + 2) := fun h =>
            h.mono (fun x hx => ⟨hx.trans hsuf, by have := hx.length_le; omega⟩) id (fun h => by omega)
          have hS := nested (g := fun x : Ch × Option Expr × Str => x.2.2) ((ihS [41] rest [] []).mono
            (fun _ h => h.1) (fun h => h StackOK_nil) (fun h => by omega))
          have hA1 := nested (g := Prod.snd) (ihA 41 rest [])
          have hA2 := nested (g := Prod.snd) (ihA 93 rest [])
          have hM := nested (g := Prod.snd) (ihM 125 rest [])
          have h0 := And.intro hsuf hp
          simp only
          -- as variables, so that `split` puts what a nested call returned into the fact about it
          generalize parseSub fuel [41] rest [] [] = rS at hS ⊢
          generalize parseArgs fuel 41 rest [] = rA1 at hA1 ⊢
          generalize parseArgs fuel 93 rest [] = rA2 at hA2 ⊢
          generalize parseMembers fuel 125 rest [] = rM at hM ⊢
          repeat' split
          all_goals first
            | trivial                       -- an error
            | contradiction                 -- the nested call has no panic and no livelock to hand on
            | assumption                    -- the nested call out of fuel: this one has one unit more
            | exact fin br (fun _ => hp)    -- a closing bracket that is a stop
            | exact next stops exprs (by assumption) fun hs => by
                simp [hs, StackOK_of_subset (List.dropLast_subset _) hs, StackOK_pushOpt, StackOK_append,
                  StackOK_cons, StackOK_nil, ItemOK]
    · intro stop inp acc
      have hS := ihS [44, stop] inp [] []
      rw [parseArgs]
      -- by what `parseSub` returned; `livelock` goes by `simp`
      split <;> simp only [PRes.Allowed, SubOK, *] at hS
      · split                                       -- ok, nothing
        · exact hS.1
        · exact trivial
      · split                                       -- ok, an expression
        · exact hS.1
        · split
          · exact trivial
          · have hl := hS.2 (by simpa using ‹¬(_ == 0) = true›)
            exact (ihA stop _ _).mono (fun _ h => h.trans hS.1) id (fun h => by omega)
      · exact trivial                               -- err
      · exact hS StackOK_nil                        -- panic
      · show _ < _; omega                           -- outOfFuel
    · intro stop inp acc
      have hS := ihS [58, stop] inp [] []
      rw [parseMembers]
      -- the same twice: for the key and, behind a key, for the value
      split <;> simp only [PRes.Allowed, SubOK, *] at hS
      · split                                       -- key: ok, nothing
        · exact hS.1
        · exact trivial
      · have hV := ihS [44, stop] ‹Str› [] []       -- key: ok, an expression
        have := hS.1.length_le
        split <;> simp only [PRes.Allowed, SubOK, *] at hV
        · exact trivial                             -- value: ok, nothing
        · split                                     -- value: ok, an expression
          · exact hV.1.trans hS.1
          · split
            · exact trivial
            · have hl := hV.2 (by simpa using ‹¬(_ == 0) = true›)
              exact (ihM stop _ _).mono (fun _ h => (h.trans hV.1).trans hS.1) id (fun h => by omega)
        · exact trivial                             -- value: err
        · exact hV StackOK_nil                      -- value: panic
        · show _ < _; omega                         -- value: outOfFuel
      · exact trivial                               -- key: err
      · exact hS StackOK_nil                        -- key: panic
      · show _ < _; omega                           -- key: outOfFuel

/-- every text parses to an expression or a parse error: `parse` starts with an empty stack and
with `parseFuel text = 2·|text| + 4` units of fuel -/
theorem parse_total (text : Str) : (∃ e, parse text = .ok e) ∨ (∃ e, parse text = .err e) := by
  have h := (parser_allowed (parseFuel text)).1 [0] text [] []
  unfold parse
  split <;> simp only [PRes.Allowed, *] at h
  · exact Or.inr ⟨_, rfl⟩
  · exact Or.inl ⟨_, rfl⟩
  · exact Or.inr ⟨_, rfl⟩
  · exact absurd StackOK_nil h
  · simp [parseFuel] at h

end Rfsm.Expr
