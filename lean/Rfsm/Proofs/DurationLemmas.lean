import Rfsm.Model.Timer
/-!
`parseDuration` (the transcription of `parse_duration_to_milliseconds` on top of the lexer's number
scanner) on the CSS2 time language `\d*(\.\d+)?(ms|s|m|h|d)`.

The backbone is `parseDuration_word`: on a decimal literal followed by a word of letters the unit table
decides (`readNumber_css2Text` for the literal, `nextToken_letters` for the word);
`parseDuration_css2Text` (the five units) and `parseDuration_unknown_unit` are its instances.
-/
namespace Rfsm.Timer

theorem isDigit_iff (c : Nat) : isDigit c = true ↔ 48 ≤ c ∧ c ≤ 57 := by
  simp [isDigit]

theorem allDigits_cons (c : Nat) (r : Str) :
    allDigits (c :: r) = true ↔ isDigit c = true ∧ allDigits r = true := by
  simp [allDigits]

/-! ### `read_number` on a decimal literal -/

/-- the state after reading a digit -/
def digitState (st : Nat) : Nat := if st = 0 ∨ st = 5 then 1 else if st = 3 ∨ st = 6 then 4 else st

theorem digitState_idem (st : Nat) : digitState (digitState st) = digitState st := by
  by_cases h1 : st = 0 ∨ st = 5 <;> by_cases h2 : st = 3 ∨ st = 6 <;> simp [digitState, h1, h2]

theorem readNumber_digit (st : Nat) (buf : Str) (c : Nat) (r : Str) (hc : isDigit c = true) :
    readNumber st buf (c :: r) = readNumber (digitState st) (buf ++ [c]) r := by
  have h := (isDigit_iff c).1 hc
  have h46 : ¬ c = 46 := by omega
  rw [readNumber, if_neg h46, if_pos hc]
  rfl

theorem readNumber_digits (ds : Str) (hd : allDigits ds = true) (st : Nat) (buf r : Str) :
    readNumber st buf (ds ++ r) = readNumber (if ds = [] then st else digitState st) (buf ++ ds) r := by
  induction ds generalizing st buf with
  | nil => simp
  | cons c cs ih =>
    rw [allDigits_cons] at hd
    rw [List.cons_append, readNumber_digit st buf c (cs ++ r) hd.1, ih hd.2]
    by_cases hcs : cs = []
    · simp [hcs]
    · simp [hcs, digitState_idem]

/-- a character that ends a number and is pushed back: anything but `.`, a digit, a sign, `e`, `E`, NUL -/
abbrev EndsNumber (c : Nat) : Prop := c ≠ 46 ∧ isDigit c = false ∧ c ≠ 43 ∧ c ≠ 45 ∧ c ≠ 69 ∧ c ≠ 101 ∧ c ≠ 0

theorem readNumber_other (st : Nat) (buf : Str) (c : Nat) (r : Str) (h : EndsNumber c) :
    readNumber st buf (c :: r) = finishNumber st buf (c :: r) := by
  obtain ⟨h1, h2, h3, h4, h5, h6, h7⟩ := h
  rw [readNumber, if_neg h1, if_neg (by simp [h2]), if_neg h3, if_neg h4, if_neg (by omega), if_neg h7]

theorem finishNumber_one (buf rest : Str) :
    finishNumber 1 buf rest = match parseI64 buf with
      | some v => ⟨.number (.int v), rest⟩
      | none => ⟨.error, rest⟩ := by
  unfold finishNumber; rw [if_pos rfl]
  cases parseI64 buf <;> rfl

theorem finishNumber_two (buf rest : Str) :
    finishNumber 2 buf rest = if buf.length = 1 then ⟨.other, rest⟩
      else match parseF64 buf with
        | some (neg, n, d) => ⟨.number (.dbl neg n d), rest⟩
        | none => ⟨.error, rest⟩ := by
  unfold finishNumber; rw [if_neg (by omega), if_pos (Or.inl rfl)]
  by_cases h : buf.length = 1
  · rw [if_pos h, if_pos h]
  · rw [if_neg h, if_neg h]
    cases parseF64 buf with
    | none => rfl
    | some p => obtain ⟨a, b, c⟩ := p; rfl

theorem digit_not_sign {c : Nat} (hc : isDigit c = true) : c ≠ 45 ∧ c ≠ 43 ∧ c ≠ 46 := by
  have := (isDigit_iff c).1 hc; omega

theorem parseI64_digits (ds : Str) (hd : allDigits ds = true) (hne : ds ≠ []) :
    parseI64 ds = if digitsVal ds ≤ i64Max then some (digitsVal ds : Int) else none := by
  cases ds with
  | nil => exact absurd rfl hne
  | cons c r =>
    have hc : isDigit c = true := by
      rw [allDigits_cons] at hd; exact hd.1
    have := digit_not_sign hc
    unfold parseI64
    split
    · rename_i heq; cases heq
    · rename_i heq; cases heq; omega
    · rename_i heq; cases heq; omega
    · simp [hd]

theorem takeWhile_digits_append (ds : Str) (hd : allDigits ds = true) (r : Str)
    (hr : ∀ c r', r = c :: r' → isDigit c = false) :
    (ds ++ r).takeWhile isDigit = ds ∧ (ds ++ r).dropWhile isDigit = r := by
  have hd' : ∀ a ∈ ds, isDigit a = true := List.all_eq_true.1 hd
  rw [List.takeWhile_append_of_pos hd', List.dropWhile_append_of_pos hd']
  cases r with
  | nil => simp
  | cons c r' => simp [hr c r' rfl]

/-- `spanDigits` is `takeWhile`/`dropWhile` (the recogniser `css2` uses those) -/
theorem spanDigits_eq (s : Str) : spanDigits s = (s.takeWhile isDigit, s.dropWhile isDigit) := by
  induction s with
  | nil => rfl
  | cons c r ih => by_cases hc : isDigit c = true <;> simp [spanDigits, hc, ih]

theorem spanDigits_append (ds : Str) (hd : allDigits ds = true) (r : Str)
    (hr : ∀ c r', r = c :: r' → isDigit c = false) : spanDigits (ds ++ r) = (ds, r) := by
  rw [spanDigits_eq, (takeWhile_digits_append ds hd r hr).1, (takeWhile_digits_append ds hd r hr).2]

theorem stripSign_of_not_sign (s : Str) (h : ∀ c r, s = c :: r → c ≠ 45 ∧ c ≠ 43) :
    stripSign s = (false, s) := by
  unfold stripSign
  split
  · rename_i r; exact absurd rfl (h 45 r rfl).1
  · rename_i r; exact absurd rfl (h 43 r rfl).2
  · rfl

theorem parseF64_decimal (ip fp : Str) (hip : allDigits ip = true) (hfp : allDigits fp = true) (hne : fp ≠ []) :
    parseF64 (ip ++ 46 :: fp) = some (false, digitsVal (ip ++ fp), 10 ^ fp.length) := by
  have hs : stripSign (ip ++ 46 :: fp) = (false, ip ++ 46 :: fp) := by
    apply stripSign_of_not_sign
    intro c r hcr
    cases ip with
    | nil => simp at hcr; omega
    | cons a as =>
      simp at hcr
      rw [allDigits_cons] at hip
      have := digit_not_sign hip.1
      omega
  have h1 : spanDigits (ip ++ 46 :: fp) = (ip, 46 :: fp) := by
    apply spanDigits_append ip hip
    intro c r' h; cases h; decide
  have h2 : spanDigits fp = (fp, []) := by
    have := spanDigits_append fp hfp [] (by intro c r' h; cases h)
    simpa using this
  unfold parseF64
  simp only [hs, h1, h2]
  simp [hne, parseExp]

/-- `read_number` on `ip.fp` in front of a character that ends a number and is pushed back: it stops
in state 1 (integer, `parse::<i64>`) or 2 (fraction, `parse::<f64>`) with the literal in its buffer -/
theorem readNumber_css2Text (ip fp : Str) (c : Nat) (r : Str) (hip : allDigits ip = true)
    (hfp : allDigits fp = true) (hne : ip ≠ [] ∨ fp ≠ []) (hc : EndsNumber c) :
    readNumber 0 [] (css2Text ip fp (c :: r)) =
      if fp = [] then
        (if digitsVal ip ≤ i64Max then ⟨.number (.int (digitsVal ip)), c :: r⟩ else ⟨.error, c :: r⟩)
      else ⟨.number (.dbl false (digitsVal (ip ++ fp)) (10 ^ fp.length)), c :: r⟩ := by
  by_cases hfpe : fp = []
  · have hipne : ip ≠ [] := hne.resolve_right (fun h => h hfpe)
    subst hfpe
    simp only [css2Text, if_true, List.append_nil]
    rw [readNumber_digits ip hip, if_neg hipne, readNumber_other _ _ c r hc,
      show digitState 0 = 1 from rfl, finishNumber_one, List.nil_append, parseI64_digits ip hip hipne]
    by_cases hr : digitsVal ip ≤ i64Max
    · rw [if_pos hr, if_pos hr]
    · rw [if_neg hr, if_neg hr]
  · simp only [css2Text, if_neg hfpe]
    rw [List.append_assoc, readNumber_digits ip hip]
    -- after the integer digits, if any, the state is 0 or 1: the `.` leads to state 2 from both
    have hst : (if ip = [] then 0 else digitState 0) = 0 ∨ (if ip = [] then 0 else digitState 0) = 1 := by
      by_cases h : ip = [] <;> simp [h, digitState]
    generalize (if ip = [] then 0 else digitState 0) = st at hst
    rw [List.cons_append, readNumber, if_pos rfl, if_pos (by omega), readNumber_digits fp hfp,
      if_neg hfpe, readNumber_other _ _ c r hc, show digitState 2 = 2 from rfl, finishNumber_two]
    have hlen : ([] ++ ip ++ [46] ++ fp).length ≠ 1 := by
      cases fp with
      | nil => exact absurd rfl hfpe
      | cons f fs => simp; omega
    rw [if_neg hlen, show [] ++ ip ++ [46] ++ fp = ip ++ 46 :: fp by simp, parseF64_decimal ip fp hip hfp hfpe]

/-! ### `next_token`: numbers and words of letters -/

theorem eatSpace_of_not_ws (c : Nat) (r : Str) (h : isWs c = false) : eatSpace (c :: r) = c :: r := by
  simp [eatSpace, h]

theorem nextToken_cons (c : Nat) (r : Str) (h : isWs c = false) :
    nextToken (c :: r) =
      if isDigit c = true ∨ c = 45 ∨ c = 43 ∨ c = 46 then readNumber 0 [] (c :: r)
      else if isStop c then ⟨.other, r⟩ else readIdent [c] r := by
  unfold nextToken
  rw [eatSpace_of_not_ws c r h]

theorem readIdent_not_number (buf rest : Str) (n : Num) : (readIdent buf rest).tok ≠ .number n := by
  induction rest generalizing buf with
  | nil => unfold readIdent identOf; split <;> simp
  | cons x xs ih =>
    unfold readIdent
    split
    · unfold identOf; split <;> simp
    · exact ih _

def isLetter (c : Nat) : Prop := (65 ≤ c ∧ c ≤ 90) ∨ (97 ≤ c ∧ c ≤ 122)

theorem isDigit_letter {c : Nat} (h : isLetter c) : isDigit c = false := by
  have : ¬ isDigit c = true := by rw [isDigit_iff]; unfold isLetter at h; omega
  simpa using this

theorem stopChars_not_letter : ∀ c ∈ stopChars, ¬ isLetter c := by
  unfold isLetter; decide

theorem isStop_letter {c : Nat} (h : isLetter c) : isStop c = false := by
  have hws : isWs c = false := by
    have : ¬ isWs c = true := by unfold isLetter at h; simp [isWs]; omega
    simpa using this
  have hst : stopChars.contains c = false :=
    Bool.eq_false_iff.2 fun hc => stopChars_not_letter c (List.contains_iff_mem.1 hc) h
  rw [isStop, hws, hst]; rfl

theorem readIdent_letters (u : Str) (hu : ∀ c ∈ u, isLetter c) (buf : Str) :
    readIdent buf u = identOf (buf ++ u) [] := by
  induction u generalizing buf with
  | nil => simp [readIdent]
  | cons c r ih =>
    have hc := isStop_letter (hu c (List.mem_cons_self ..))
    rw [readIdent, hc]
    simp only [Bool.false_eq_true, if_false]
    rw [ih (fun x hx => hu x (List.mem_cons_of_mem _ hx))]
    simp

theorem nextToken_letters (c : Nat) (r : Str) (hu : ∀ x ∈ c :: r, isLetter x) :
    nextToken (c :: r) = identOf (c :: r) [] := by
  have hc := hu c (List.mem_cons_self ..)
  have hst := isStop_letter hc
  have hws : isWs c = false := (Bool.or_eq_false_iff.1 hst).1
  have hnum : ¬ (isDigit c = true ∨ c = 45 ∨ c = 43 ∨ c = 46) := by
    rw [isDigit_letter hc]; unfold isLetter at hc; simp; omega
  rw [nextToken_cons c r hws, if_neg hnum, hst]
  simp only [Bool.false_eq_true, if_false]
  rw [readIdent_letters r (fun x hx => hu x (List.mem_cons_of_mem _ hx))]
  simp

theorem letter_ends_number {c : Nat} (hc : isLetter c) (he : c ≠ 69 ∧ c ≠ 101) : EndsNumber c := by
  have hd := isDigit_letter hc
  unfold isLetter at hc
  exact ⟨by omega, hd, by omega, by omega, he.1, he.2, by omega⟩

theorem nextToken_numStart (c : Nat) (r : Str) (hc : isDigit c = true ∨ c = 46) :
    nextToken (c :: r) = readNumber 0 [] (c :: r) := by
  have hws : isWs c = false := by
    rcases hc with hc | rfl
    · have := (isDigit_iff c).1 hc
      simp [isWs]; omega
    · decide
  rw [nextToken_cons c r hws, if_pos (hc.imp_right fun h => Or.inr (Or.inr h))]

theorem nextToken_css2Text (ip fp u : Str) (hip : allDigits ip = true) (hne : ip ≠ [] ∨ fp ≠ []) :
    nextToken (css2Text ip fp u) = readNumber 0 [] (css2Text ip fp u) := by
  -- the text starts with a digit or with '.'
  have hstart : ∃ c r, css2Text ip fp u = c :: r ∧ (isDigit c = true ∨ c = 46) := by
    unfold css2Text
    cases ip with
    | nil =>
      cases fp with
      | nil => simp at hne
      | cons f fs => exact ⟨46, (f :: fs) ++ u, by simp, Or.inr rfl⟩
    | cons a as =>
      rw [allDigits_cons] at hip
      exact ⟨a, as ++ (if fp = [] then [] else 46 :: fp) ++ u, by simp, Or.inl hip.1⟩
  obtain ⟨c, r, hcr, hc⟩ := hstart
  rw [hcr, nextToken_numStart c r hc]

theorem roundHalfAway_one (x : Nat) : roundHalfAway x 1 = x := by
  unfold roundHalfAway; omega

theorem css2Text_ne_nil (ip fp u : Str) (hu : u ≠ []) : css2Text ip fp u ≠ [] := by
  unfold css2Text
  intro h
  have := List.append_eq_nil_iff.1 h
  exact hu this.2

/-- the unit table decides.  (An integer literal beyond `i64` is a lexer error: −1.) -/
theorem parseDuration_word (ip fp : Str) (c : Nat) (r : Str) (hip : allDigits ip = true)
    (hfp : allDigits fp = true) (hne : ip ≠ [] ∨ fp ≠ []) (hu : ∀ x ∈ c :: r, isLetter x)
    (he : c ≠ 69 ∧ c ≠ 101) (hkw : c :: r ≠ kwTrue ∧ c :: r ≠ kwFalse ∧ c :: r ≠ kwNull) :
    parseDuration (css2Text ip fp (c :: r)) =
      if fp = [] ∧ i64Max < digitsVal ip then -1
      else match unitMult (c :: r) with
        | some m => ((min (css2Value ip fp m) i64Max : Nat) : Int)
        | none => -1 := by
  have htok : nextToken (c :: r) = ⟨.ident (c :: r), []⟩ := by
    rw [nextToken_letters c r hu, identOf, if_neg (fun h => h.elim hkw.1 (·.elim hkw.2.1 hkw.2.2))]
  unfold parseDuration
  rw [if_neg (css2Text_ne_nil ip fp (c :: r) (by simp)),
    nextToken_css2Text ip fp _ hip hne,
    readNumber_css2Text ip fp c r hip hfp hne (letter_ends_number (hu c (List.mem_cons_self ..)) he)]
  by_cases hfpe : fp = []
  · subst hfpe
    rw [if_pos rfl]
    by_cases hr : digitsVal ip ≤ i64Max
    · rw [if_pos hr, if_neg (by omega)]
      simp only [htok]
      cases unitMult (c :: r) with
      | none => rfl
      | some m =>
        simp only [toMillis, css2Value, List.append_nil, List.length_nil, Nat.pow_zero, roundHalfAway_one]
        rw [if_pos (by omega)]
        simp
    · rw [if_neg hr, if_pos ⟨rfl, by omega⟩]
  · rw [if_neg hfpe, if_neg (fun h => hfpe h.1)]
    simp only [htok]
    cases unitMult (c :: r) with
    | none => rfl
    | some m => simp [toMillis, css2Value]

theorem unit_facts (u : Str) (m : Nat) (hu : (u, m) ∈ css2Units) :
    ∃ c r, u = c :: r ∧ (∀ x ∈ c :: r, isLetter x) ∧ (c ≠ 69 ∧ c ≠ 101) ∧
      (c :: r ≠ kwTrue ∧ c :: r ≠ kwFalse ∧ c :: r ≠ kwNull) ∧ unitMult u = some m ∧
      css2Units.lookup u = some m := by
  simp only [css2Units, List.mem_cons, Prod.mk.injEq, List.not_mem_nil, or_false] at hu
  rcases hu with ⟨rfl, rfl⟩ | ⟨rfl, rfl⟩ | ⟨rfl, rfl⟩ | ⟨rfl, rfl⟩ | ⟨rfl, rfl⟩ <;>
    exact ⟨_, _, rfl, by simp [isLetter], by decide, by decide, by decide, by decide⟩

theorem parseDuration_css2Text (ip fp u : Str) (m : Nat) (hip : allDigits ip = true)
    (hfp : allDigits fp = true) (hne : ip ≠ [] ∨ fp ≠ []) (hu : (u, m) ∈ css2Units) :
    parseDuration (css2Text ip fp u) =
      if fp = [] ∧ i64Max < digitsVal ip then -1
      else ((min (css2Value ip fp m) i64Max : Nat) : Int) := by
  obtain ⟨c, r, rfl, hl, he, hkw, hm, _⟩ := unit_facts u m hu
  rw [parseDuration_word ip fp c r hip hfp hne hl he hkw, hm]

theorem parseDuration_unknown_unit (ip fp : Str) (c : Nat) (r : Str) (hip : allDigits ip = true)
    (hfp : allDigits fp = true) (hne : ip ≠ [] ∨ fp ≠ []) (hu : ∀ x ∈ c :: r, isLetter x)
    (he : c ≠ 69 ∧ c ≠ 101) (hunit : unitMult (c :: r) = none)
    (hkw : c :: r ≠ kwTrue ∧ c :: r ≠ kwFalse ∧ c :: r ≠ kwNull) :
    parseDuration (css2Text ip fp (c :: r)) = -1 := by
  rw [parseDuration_word ip fp c r hip hfp hne hu he hkw, hunit]
  split <;> rfl

/-! ### the independent recogniser -/

theorem css2Frac_of_ne (c : Nat) (r : Str) (h : c ≠ 46) : css2Frac (c :: r) = ([], c :: r, true) := by
  unfold css2Frac
  split
  · rename_i heq; cases heq; exact absurd rfl h
  · rfl

theorem css2_css2Text (ip fp u : Str) (m : Nat) (hip : allDigits ip = true)
    (hfp : allDigits fp = true) (hne : ip ≠ [] ∨ fp ≠ []) (hu : (u, m) ∈ css2Units) :
    css2 (css2Text ip fp u) = some (css2Value ip fp m) := by
  obtain ⟨uc, ur, rfl, hl, he, _, _, hlk⟩ := unit_facts _ m hu
  obtain ⟨h46, hucd, _⟩ := letter_ends_number (hl uc (List.mem_cons_self ..)) he
  by_cases hfpe : fp = []
  · subst hfpe
    have hipne : ip ≠ [] := hne.resolve_right (fun h => h rfl)
    have h1 := takeWhile_digits_append ip hip (uc :: ur) (by intro c r' h; cases h; exact hucd)
    unfold css2
    simp only [css2Text, if_true, List.append_nil, h1.1, h1.2, css2Frac_of_ne uc ur h46]
    simp [hipne, hlk]
  · have h1 := takeWhile_digits_append ip hip (46 :: (fp ++ uc :: ur)) (by intro c r' h; cases h; decide)
    have h2 := takeWhile_digits_append fp hfp (uc :: ur) (by intro c r' h; cases h; exact hucd)
    unfold css2
    have ht : css2Text ip fp (uc :: ur) = ip ++ 46 :: (fp ++ uc :: ur) := by
      simp [css2Text, hfpe]
    simp only [ht, h1.1, h1.2, css2Frac, h2.1, h2.2]
    simp [hfpe, hlk]

theorem css2Frac_ok (r : Str) (h : (css2Frac r).2.2 = true) :
    r = (if (css2Frac r).1 = [] then [] else 46 :: (css2Frac r).1) ++ (css2Frac r).2.1 ∧
      allDigits (css2Frac r).1 = true := by
  unfold css2Frac at h ⊢
  split
  · rename_i r'
    simp only [Bool.not_eq_true', List.isEmpty_eq_false_iff] at h
    rw [if_neg h, List.cons_append, List.takeWhile_append_dropWhile]
    exact ⟨rfl, List.all_takeWhile⟩
  · exact ⟨rfl, rfl⟩

theorem lookup_mem (r : Str) (m : Nat) (l : List (Str × Nat)) (h : l.lookup r = some m) : (r, m) ∈ l := by
  obtain ⟨l₁, l₂, rfl, _⟩ := List.lookup_eq_some_iff.1 h
  simp

theorem css2_some (s : Str) (v : Nat) (h : css2 s = some v) :
    ∃ ip fp u m, s = css2Text ip fp u ∧ allDigits ip = true ∧ allDigits fp = true ∧
      (ip ≠ [] ∨ fp ≠ []) ∧ (u, m) ∈ css2Units ∧ v = css2Value ip fp m := by
  unfold css2 at h
  simp only at h
  split at h
  · rename_i hcond
    rw [Bool.and_eq_true] at hcond
    obtain ⟨hr, hfd⟩ := css2Frac_ok _ hcond.1
    split at h
    · rename_i m hm
      cases h
      refine ⟨_, _, _, m, ?_, List.all_takeWhile, hfd, ?_, lookup_mem _ _ _ hm, rfl⟩
      · rw [css2Text, List.append_assoc, ← hr, List.takeWhile_append_dropWhile]
      · simpa only [Bool.not_eq_true', Bool.and_eq_false_iff, List.isEmpty_eq_false_iff] using hcond.2
    · cases h
  · cases h

end Rfsm.Timer
