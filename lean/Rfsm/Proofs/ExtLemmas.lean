import Rfsm.Proofs.StepLemmas
/-!
What the operations of the event loop around the microsteps do to a session (M-INT): data
initialisation, the invocations of one state, the dequeue with its filter, the preliminaries of an external
event (`done.invoke` bookkeeping, `_event`, `<finalize>`, autoforward).  Each leaves the control part alone
(`Kept`).  That a step only appends to the external queue (`ExtGrows`) is proved of the absorbing steps,
`microstep`, `preExternal` and `processExternal`.
-/
namespace Rfsm.Interp

variable {σ : Type}

theorem initSession_absorbs (env : Env σ) (d : Doc) (dm0 : σ) :
    Absorbs { dm := dm0 } (initSession env d dm0) := by
  unfold initSession
  simp only
  split
  · exact (Absorbs.foldl (fun s _ => absorbs_absorb s _) _ _).trans (absorbs_absorb _ _)
  · exact Absorbs.foldl (fun s _ => absorbs_absorb s _) _ _

/-! ### the invocation phase -/

theorem invokeOne_kept (env : Env σ) (sid : Nat) (s : Sess σ) (inv : Invoke) :
    Kept s (invokeOne env sid s inv) := by
  unfold invokeOne
  simp only
  split <;> exact ⟨rfl, rfl, rfl, rfl, rfl⟩

theorem invokeOne_trace (env : Env σ) (sid : Nat) (s : Sess σ) (inv : Invoke) :
    (invokeOne env sid s inv).trace = s.trace ++ [.invoke sid inv.docId] := by
  unfold invokeOne
  simp only
  split <;> rfl

theorem invokeState_kept (env : Env σ) (d : Doc) (s : Sess σ) (sid : Nat) :
    Kept s (invokeState env d s sid) := by
  refine foldl_rel Kept.refl Kept.trans (fun s idoc => ?_) _ s
  split
  · exact Kept.refl s
  · exact invokeOne_kept env sid s _

/-! ### the dequeue and its filter -/

theorem acceptExternal_foreign {caller iid : Descriptor.Str} {s : Sess σ} {e : Event}
    (hn : doneInvokePrefix.isPrefixOf e.name = false) (hi : e.invokeId = some iid) (hc : caller ≠ iid) :
    acceptExternal caller s e = s.children.any (·.invokeId == iid) := by
  unfold acceptExternal
  simp [hn, hi, hc]

theorem eq_of_nodup_map {α β : Type} (f : α → β) {l : List α} (hn : (l.map f).Nodup) :
    ∀ x ∈ l, ∀ y ∈ l, f x = f y → x = y :=
  fun _ hx _ hy =>
    List.Pairwise.forall_of_forall_of_flip (R := fun a b => f a = f b → a = b) (fun _ _ _ => rfl)
      ((List.pairwise_map.1 hn).imp fun h e => absurd e h)
      ((List.pairwise_map.1 hn).imp fun h e => absurd e.symm h) hx hy

theorem cancelOne_unregisters {s : Sess σ} {c : Child} (hu : (s.children.map (·.invokeId)).Nodup)
    (hm : c ∈ s.children) : (cancelOne s c).children.any (·.invokeId == c.invokeId) = false := by
  rw [List.any_eq_false]
  intro x hx heq
  obtain ⟨hx1, hx2⟩ := List.mem_filter.1 (show x ∈ s.children.filter (· != c) from hx)
  exact (by simpa using hx2 : x ≠ c) (eq_of_nodup_map (·.invokeId) hu x hx1 c hm (by simpa using heq))

theorem takeExternal_eq (c : Descriptor.Str) : ∀ (q : List Event) (s : Sess σ),
    takeExternal c s q =
      ({ s with extq := (q.dropWhile (fun x => !acceptExternal c s x)).tail,
                trace := s.trace ++ (q.takeWhile (fun x => !acceptExternal c s x)).map (fun x => Obs.dropped x.name) },
       (q.dropWhile (fun x => !acceptExternal c s x)).head?)
  | [], s => by simp [takeExternal]
  | e :: rest, s => by
    unfold takeExternal
    split
    · rename_i h; simp [h]
    · rename_i h
      -- the filter looks at the registry only, which tracing leaves alone
      have hs : (fun x => !acceptExternal c (s.emit [.dropped e.name]) x) = (fun x => !acceptExternal c s x) := rfl
      rw [takeExternal_eq c rest, hs]
      simp [h, Sess.emit]

theorem awaitExternal_kept (c : Descriptor.Str) (s : Sess σ) (feed : List (List Event)) :
    Kept s (awaitExternal c s feed).1 := by
  have tk : ∀ (s : Sess σ) {r}, takeExternal c s s.extq = r → Kept s r.1 := by
    rintro s _ rfl; rw [takeExternal_eq]; exact ⟨rfl, rfl, rfl, rfl, rfl⟩
  -- an event is dequeued / none and no batch left / none and batch `b` becomes the queue
  fun_induction awaitExternal c s feed with
  | case1 s _ _ _ h => exact tk s h
  | case2 s _ h => exact tk s h
  | case3 s s' b _ h ih =>
    exact (tk s h).trans ((⟨rfl, rfl, rfl, rfl, rfl⟩ : Kept s' ({ s' with extq := b }.emit [.feed])).trans ih)

/-! ### the preliminaries of an external event -/

/-- only the registry changes -/
theorem forgetDoneChild_children (s : Sess σ) (e : Event) :
    forgetDoneChild s e = { s with children := (forgetDoneChild s e).children } := by
  unfold forgetDoneChild
  split
  · split <;> rfl
  · rfl

theorem forgetDoneChild_emit (s : Sess σ) (e : Event) (o : List Obs) :
    forgetDoneChild (s.emit o) e = (forgetDoneChild s e).emit o := by
  unfold forgetDoneChild
  split
  · split <;> rfl
  · rfl

theorem forgetDoneChild_kept (s : Sess σ) (e : Event) : Kept s (forgetDoneChild s e) := by
  rw [forgetDoneChild_children]; exact ⟨rfl, rfl, rfl, rfl, rfl⟩

theorem forwardOne_absorbs (e : Event) (s : Sess σ) (iid : Descriptor.Str) :
    Absorbs s (forwardOne e s iid) := by
  unfold forwardOne
  split
  · exact absorbs_emit _ _
  · exact Absorbs.refl s

theorem foldl_forwardOne_eq (e : Event) : ∀ (l : List Descriptor.Str) (s : Sess σ),
    l.foldl (forwardOne e) s =
      s.emit ((l.filter (fun i => s.children.any (·.invokeId == i))).map (fun i => Obs.forward i e.name))
  | [], s => by simp [Sess.emit]
  | a :: l, s => by
    rw [List.foldl_cons, foldl_forwardOne_eq e l, forwardOne, List.filter_cons]
    split <;> simp [Sess.emit]

/-- the preliminaries of an external event: the sender of `done.invoke` leaves the registry; the
    rest (`_event`, `<finalize>`, autoforward) is of the absorbing kind -/
theorem preExternal_absorbs (env : Env σ) (d : Doc) (s : Sess σ) (e : Event) :
    Absorbs (forgetDoneChild s e) (preExternal env d s e) := by
  unfold preExternal
  simp only [forgetDoneChild_emit]
  exact (((absorbs_emit _ _).trans (absorbs_dm _ _)).trans (.foldl (runContent_absorbs env) _ _)).trans
    (.foldl (forwardOne_absorbs e) _ _)

theorem preExternal_kept (env : Env σ) (d : Doc) (s : Sess σ) (e : Event) : Kept s (preExternal env d s e) :=
  (forgetDoneChild_kept s e).trans (preExternal_absorbs env d s e).kept

theorem preExternal_forwards (env : Env σ) (d : Doc) (s : Sess σ) (e : Event) :
    ∃ pre : List Obs, (preExternal env d s e).trace =
      pre ++ ((forgetDoneChild s e).children.filter (childAutoforward d)).map
        (fun c => Obs.forward c.invokeId e.name) := by
  unfold preExternal
  simp only [forgetDoneChild_emit, foldl_forwardOne_eq, forwardList]
  generalize forgetDoneChild s e = s1
  -- `<finalize>` content leaves the registry alone, so every listed invocation is still registered
  rw [((absorbs_dm (s1.emit [.ext e.name]) _).trans (Absorbs.foldl (runContent_absorbs env) _ _)).children,
    List.filter_eq_self.2]
  · exact ⟨_, by rw [List.map_map]; rfl⟩
  · intro i hi
    obtain ⟨c, hc, rfl⟩ := List.mem_map.1 hi
    exact List.any_eq_true.2 ⟨c, (List.mem_filter.1 hc).1, by simp⟩

/-! ### the external queue -/

/-- `s'` has the external queue of `s` plus events appended at the end -/
def ExtGrows (s s' : Sess σ) : Prop := ∃ l, s'.extq = s.extq ++ l

theorem ExtGrows.of_eq {s s' : Sess σ} (h : s'.extq = s.extq) : ExtGrows s s' := ⟨[], by simp [h]⟩
theorem ExtGrows.trans {a b c : Sess σ} (h1 : ExtGrows a b) (h2 : ExtGrows b c) : ExtGrows a c := by
  obtain ⟨l1, h1⟩ := h1
  obtain ⟨l2, h2⟩ := h2
  exact ⟨l1 ++ l2, by rw [h2, h1, List.append_assoc]⟩

theorem Absorbs.ext {s s' : Sess σ} (h : Absorbs s s') : ExtGrows s s' := by
  obtain ⟨o, rfl⟩ := h; exact ⟨o.selfExt, rfl⟩

theorem microstep_ext (env : Env σ) (d : Doc) (s : Sess σ) (ts : List Nat) : ExtGrows s (microstep env d s ts) := by
  obtain ⟨o, e, r, h⟩ := microstep_eq env d s ts
  rw [h]
  exact (absorbs_absorb s o).ext

theorem preExternal_ext (env : Env σ) (d : Doc) (s : Sess σ) (e : Event) : ExtGrows s (preExternal env d s e) :=
  (ExtGrows.of_eq (by rw [forgetDoneChild_children])).trans (preExternal_absorbs env d s e).ext

theorem processExternal_ext (env : Env σ) (d : Doc) (s : Sess σ) (e : Event) :
    ExtGrows s (processExternal env d s e) := by
  have h := (preExternal_ext env d s e).trans (select_absorbs env d (some e.name) _).ext
  unfold processExternal
  simp only
  split
  · exact h
  · exact h.trans (microstep_ext env d _ _)

end Rfsm.Interp
