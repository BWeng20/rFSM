import Rfsm.Proofs.ReaderRegions
/-!
C04 (b): the executable-content sub-reader (`start_if`, `start_else_if`, `start_else`, `end_if`,
`start_for_each`, `end_for_each`, `start/end_executable_content_region`) builds regions that denote the
nested content (`content_block`, which `C04_region_stack` states in full).

Each element that opens a sub-region is one event equation (`step_…`), its body read into the new region
(`Reads.body`), the frames composed by `Grows.trans`.
-/
namespace Rfsm.Reader
open Rfsm.Descriptor (Str)

/-! ### runs -/

theorem run_append (a b : List Sax) (σ : RS) :
    run (a ++ b) σ = match run a σ with
      | .ok σ' => run b σ'
      | .error e => .error e := by
  induction a generalizing σ with
  | nil => simp [run]
  | cons e es ih =>
    simp only [List.cons_append, run]
    cases step σ e with
    | ok σ' => simp [ih]
    | error x => simp

theorem run_append_ok {a : List Sax} {σ σ' : RS} (h : run a σ = .ok σ') (b : List Sax) :
    run (a ++ b) σ = run b σ' := by
  rw [run_append, h]

theorem run_cons_ok {e : Sax} {es : List Sax} {σ σ' : RS} (h : step σ e = .ok σ') :
    run (e :: es) σ = run es σ' := by
  simp [run, h]

theorem run_bracket {e : Sax} {body rest : List Sax} {σ σ1 σ2 : RS} (h1 : step σ e = .ok σ1)
    (h2 : run body σ1 = .ok σ2) : run ([e] ++ body ++ rest) σ = run rest σ2 := by
  rw [List.append_assoc, List.singleton_append, run_cons_ok h1, run_append_ok h2]

/-- the state a run ends in; for the closed runs that the kernel evaluates (`σ0`, `σscxml`) -/
def okState (r : R RS) : RS :=
  match r with
  | .ok σ => σ
  | .error _ => {}

theorem eq_ok_okState {r : R RS} (h : (match r with
    | .ok _ => true
    | .error _ => false) = true) : r = .ok (okState r) := by
  cases r with
  | ok σ => rfl
  | error e => simp at h

/-! ### reader states inside executable content -/

/-- what processing content may change of a state -/
def RS.upd (σ : RS) (g : Regions) (nid nsrc : Nat) : RS :=
  { σ with nextId := nid, nextSrc := nsrc, fsm := { σ.fsm with regions := g } }

/-- inside an element `tag` that was opened in state `σo` and started a sub-region -/
def inEl (σo : RS) (tag : Tag) (c : Nat) (st : List (Nat × Tag)) (g : Regions) (n s : Nat) : RS :=
  { σo with
    stack := σo.cur :: σo.stack
    cur := { σo.cur with tag := tag }
    ecStack := st
    curEc := c
    nextId := n
    nextSrc := s
    fsm := { σo.fsm with regions := g } }

/-- a state in which executable content may be read into the current region, which holds `es`.  `tag`: the five
parents that every content element admits (`<raise> <cancel> <send>` reject `<finalize>`, whose body is not covered) -/
structure Ready (σ : RS) (es : List Exec) : Prop where
  raw : σ.raw = none
  tag : σ.cur.tag ∈ contentParentsNoFinalize
  cur0 : σ.curEc ≠ 0
  curLt : σ.curEc < σ.nextId
  reg : rget σ.fsm.regions σ.curEc = some es
  fresh : ∀ id, σ.nextId ≤ id → rget σ.fsm.regions id = none
  state : ∃ s, curState σ = .ok s

theorem upd_inEl (σo : RS) (tag : Tag) (c : Nat) (st : List (Nat × Tag)) (g g' : Regions) (n s n' s' : Nat) :
    (inEl σo tag c st g n s).upd g' n' s' = inEl σo tag c st g' n' s' := rfl

theorem upd_upd (σ : RS) (g g' : Regions) (n s n' s' : Nat) :
    (σ.upd g n s).upd g' n' s' = σ.upd g' n' s' := rfl

theorem mem_contentParents {t : Tag} (h : t ∈ contentParentsNoFinalize) : t ∈ contentParents := by
  simp only [contentParentsNoFinalize, contentParents, List.mem_cons, List.not_mem_nil, or_false] at *
  rcases h with h | h | h | h | h <;> simp [h]

theorem verifyParent_ready {σ : RS} {es : List Exec} (hR : Ready σ es) (t : Tag) (allowed : List Tag)
    (h : ∀ x ∈ contentParentsNoFinalize, x ∈ allowed) : verifyParent (σ.push t) allowed = .ok () := by
  simp [verifyParent, RS.parentTag, RS.push, h _ hR.tag]

theorem addExec_reg {σ : RS} {es : List Exec} (h0 : σ.curEc ≠ 0) (hr : rget σ.fsm.regions σ.curEc = some es)
    (e : Exec) : addExec σ e = .ok (σ.upd (rset σ.fsm.regions σ.curEc (es ++ [e])) σ.nextId σ.nextSrc) := by
  simp [addExec, h0, hr, RS.upd]

/-! ### region stack -/

theorem unwind_same {c R0 : Nat} {t : Tag} {S : List (Nat × Tag)} (hc : c ≠ 0) :
    unwind c ((R0, t) :: S) t = .ok (R0, S) := by
  simp [unwind, hc]

/-- the region stack inside an `<if>`: first branch, or a branch opened by `<elseif>` -/
def IfStack (st : List (Nat × Tag)) (R0 : Nat) (S : List (Nat × Tag)) : Prop :=
  st = (R0, .if_) :: S ∨ ∃ r, r ≠ 0 ∧ st = (r, .elseif) :: (R0, .if_) :: S

theorem unwind_ifStack {c R0 : Nat} {st S : List (Nat × Tag)} (hc : c ≠ 0) (h : IfStack st R0 S) :
    unwind c st .if_ = .ok (R0, S) := by
  rcases h with h | ⟨r, hr, h⟩
  · subst h; exact unwind_same hc
  · subst h; simp [unwind, hc, hr]

/-! ### single SAX events -/

theorem step_start {σ : RS} (hraw : σ.raw = none) {n : Str} (a : Attrs) {t : Tag} (ht : tagOf (localName n) = t)
    (hr : isRawTag t = false) : step σ (.start n a) = startElement σ t a := by
  simp [step, hraw, ht, hr]

theorem step_empty {σ : RS} (hraw : σ.raw = none) {n : Str} (a : Attrs) {t : Tag} (ht : tagOf (localName n) = t)
    (hr : isRawTag t = false) (hi : t ≠ .include) :
    step σ (.empty n a) = startElement σ t a >>= (endElement · t) := by
  simp [step, hraw, ht, hr, hi]

theorem step_stop {σ : RS} (hraw : σ.raw = none) {n : Str} {t : Tag} (ht : tagOf (localName n) = t)
    (hi : t ≠ .include) : step σ (.stop n) = endElement σ t := by
  simp [step, hraw, ht, hi]

theorem step_startIf (σ : RS) (c : Str) (es : List Exec) (hR : Ready σ es) :
    ∃ g1, step σ (.start t_if [(a_cond, c)]) =
        .ok (inEl σ .if_ σ.nextId ((σ.curEc, .if_) :: σ.ecStack) g1 (σ.nextId + 1) (σ.nextSrc + 1)) ∧
      Opened σ.fsm.regions g1 σ.curEc (es ++ [.ifE (.source c σ.nextSrc) σ.nextId 0]) σ.nextId := by
  have hne : σ.curEc ≠ σ.nextId := Nat.ne_of_lt hR.curLt
  refine ⟨_, ?_, Opened.rset σ.fsm.regions _ _ es (.ifE (.source c σ.nextSrc) 0 0) _⟩
  have hmem : σ.cur.tag ∈ contentParents := mem_contentParents hR.tag
  rw [step_start hR.raw _ (t := .if_) (by decide) (by decide)]
  simp [startElement, startIf, verifyParent, RS.parentTag, RS.push, required, getAttr, addExec, hR.cur0, hR.reg, bind,
    Except.bind, createSource, startRegion, setIfContent, rget_rset, hne, hmem, setLast_concat, inEl]

theorem getAttr_index (a i x : Str) :
    (getAttr ([(a_array, a), (a_item, i)] ++ strA a_index x) a_index).getD [] = x := by
  have h1 : ¬ a_array = a_index := by decide
  have h2 : ¬ a_item = a_index := by decide
  by_cases hx : x = []
  · simp [strA, getAttr, h1, h2, hx]
  · have : x.isEmpty = false := by cases x <;> simp_all
    simp [strA, getAttr, h1, h2, this]

theorem step_startForeach (σ : RS) (a i x : Str) (es : List Exec) (hR : Ready σ es) :
    ∃ g1, step σ (.start t_foreach ([(a_array, a), (a_item, i)] ++ strA a_index x)) =
        .ok (inEl σ .foreach σ.nextId ((σ.curEc, .foreach) :: σ.ecStack) g1 (σ.nextId + 1) (σ.nextSrc + 1)) ∧
      Opened σ.fsm.regions g1 σ.curEc (es ++ [.foreach (.source a σ.nextSrc) i x σ.nextId]) σ.nextId := by
  have hi := getAttr_index a i x
  generalize hattrs : [(a_array, a), (a_item, i)] ++ strA a_index x = attrs at hi
  have ha : getAttr attrs a_array = some a := by simp [← hattrs, getAttr]
  have hit : getAttr attrs a_item = some i := by simp [← hattrs, getAttr, show ¬ a_array = a_item by decide]
  have hne : σ.curEc ≠ σ.nextId := Nat.ne_of_lt hR.curLt
  refine ⟨_, ?_, Opened.rset σ.fsm.regions _ _ es (.foreach (.source a σ.nextSrc) i x 0) _⟩
  have hmem : σ.cur.tag ∈ contentParents := mem_contentParents hR.tag
  rw [step_start hR.raw _ (t := .foreach) (by decide) (by decide)]
  simp [startElement, startForEach, verifyParent, RS.parentTag, RS.push, required, ha, hit, hi, addExec, hR.cur0,
    hR.reg, bind, Except.bind, createSource, startRegion, rget_rset, hne, hmem, setLast_concat, inEl]

theorem step_stopEl (σo : RS) (tag : Tag) (name : Str) (c : Nat) (st : List (Nat × Tag)) (g : Regions) (n s : Nat)
    (hname : tagOf (localName name) = tag) (htag : tag = .if_ ∨ tag = .foreach) (hraw : σo.raw = none)
    (hu : unwind c st tag = .ok (σo.curEc, σo.ecStack)) :
    step (inEl σo tag c st g n s) (.stop name) = .ok (σo.upd g n s) := by
  rw [step_stop (σ := inEl σo tag c st g n s) hraw hname (by rcases htag with h | h <;> simp [h])]
  rcases htag with h | h <;> subst h <;>
  simp [inEl, endElement, endIf, endForEach, endRegion, hu, bind, Except.bind, RS.pop, RS.upd]

/-- the fuel `n + 1` is `nextId` once region `n` is open (`startElse`) -/
theorem step_else (σo : RS) (c : Nat) (st : List (Nat × Tag)) (g g' : Regions) (n s R0 : Nat) (S : List (Nat × Tag))
    (hraw : σo.raw = none) (hu : unwind c st .if_ = .ok (R0, S))
    (hset : setDeepestElse (n + 1) (rset g n []) R0 n = .ok g') :
    step (inEl σo .if_ c st g n s) (.empty t_else []) = .ok (inEl σo .if_ n ((R0, .if_) :: S) g' (n + 1) s) := by
  rw [step_empty (σ := inEl σo .if_ c st g n s) hraw _ (t := .else_) (by decide) (by decide) (by decide)]
  simp [inEl, startElement, startElse, verifyParent, RS.parentTag, RS.push, endRegion, hu, bind, Except.bind,
    startRegion, hset, endElement, RS.pop]

/-- two new regions, `n` for the nested `If` and `n + 1` for its first branch: fuel `n + 2` (`startElseIf`) -/
theorem step_elseif (σo : RS) (c : Nat) (st : List (Nat × Tag)) (g g' : Regions) (n s R0 : Nat)
    (S : List (Nat × Tag)) (c2 : Str) (hraw : σo.raw = none) (hn : n ≠ 0) (hu : unwind c st .if_ = .ok (R0, S))
    (hset : setDeepestElse (n + 2) (elseifRegions g n s c2) R0 n = .ok g') :
    step (inEl σo .if_ c st g n s) (.empty t_elseif [(a_cond, c2)]) =
      .ok (inEl σo .if_ (n + 1) ((n, .elseif) :: (R0, .if_) :: S) g' (n + 2) (s + 1)) := by
  simp [elseifRegions] at hset
  rw [step_empty (σ := inEl σo .if_ c st g n s) hraw _ (t := .elseif) (by decide) (by decide) (by decide)]
  simp [inEl, startElement, startElseIf, verifyParent, RS.parentTag, RS.push, endRegion, hu, bind, Except.bind,
    startRegion, required, getAttr, createSource, addExec, hn, rget_rset, setIfContent, setLast, hset, endElement,
    RS.pop]

/-! ### what reading content establishes -/

/-- `Grows` for the current region of `σ`, and what that region holds afterwards -/
structure Post (σ : RS) (es new : List Exec) (g' : Regions) (n' : Nat) : Prop where
  le : σ.nextId ≤ n'
  reg : rget g' σ.curEc = some (es ++ new)
  old : ∀ id, id < σ.nextId → id ≠ σ.curEc → rget g' id = rget σ.fsm.regions id
  fresh : ∀ id, n' ≤ id → rget g' id = none
  alloc : ∀ id, σ.nextId ≤ id → id < n' → (rget g' id).isSome

theorem Post.grows {σ : RS} {es new : List Exec} {g' : Regions} {n' : Nat} (h : Post σ es new g' n') :
    Grows σ.fsm.regions g' σ.nextId n' σ.curEc := ⟨h.le, h.old, h.fresh, h.alloc⟩

theorem Grows.post {σ : RS} {es new : List Exec} {g' : Regions} {n' : Nat}
    (h : Grows σ.fsm.regions g' σ.nextId n' σ.curEc) (hr : rget g' σ.curEc = some (es ++ new)) :
    Post σ es new g' n' :=
  ⟨h.le, hr, h.old, h.fresh, h.alloc⟩

/-- content without sub-regions: one SAX group appends exactly one entry that decompiles to the
normal form of the element -/
def LeafOK (c : Content) : Prop :=
  ∀ σ es, Ready σ es → ∃ e s', run (saxC c) σ = .ok (σ.upd (rset σ.fsm.regions σ.curEc (es ++ [e])) σ.nextId s') ∧
    dLeaf e = some (normC c) ∧ dEntry (fun _ => none) e = dLeaf e

mutual
/-- every leaf of the content is read as one entry (`LeafOK`) -/
def OkC : Content → Prop
  | .ite _ b t => OkB b ∧ OkT t
  | .foreach _ _ _ b => OkB b
  | .raise e => LeafOK (.raise e)
  | .assign l e t => LeafOK (.assign l e t)
  | .log l e => LeafOK (.log l e)
  | .script t => LeafOK (.script t)
  | .send s => LeafOK (.send s)
  | .cancel i e => LeafOK (.cancel i e)
def OkB : List Content → Prop
  | [] => True
  | c :: cs => OkC c ∧ OkB cs
def OkT : Tail → Prop
  | .none => True
  | .els b => OkB b
  | .elif _ b t => OkB b ∧ OkT t
end

theorem ready_upd {σ : RS} {es new : List Exec} {g' : Regions} {n' s' : Nat} (hR : Ready σ es)
    (hP : Post σ es new g' n') : Ready (σ.upd g' n' s') (es ++ new) where
  raw := hR.raw
  tag := hR.tag
  cur0 := hR.cur0
  curLt := Nat.lt_of_lt_of_le hR.curLt hP.le
  reg := hP.reg
  fresh := hP.fresh
  state := hR.state

/-! ### the main induction -/

/-- conclusion shared by content and blocks -/
def Reads (evs : List Sax) (σ : RS) (es : List Exec) (b : Block) : Prop :=
  ∃ g' n' s' new, run evs σ = .ok (σ.upd g' n' s') ∧ Post σ es new g' n' ∧ DenL σ.nextId g' n' new b

/-- conclusion for the rest of an `<if>` after a branch body -/
def ReadsTail (evs : List Sax) (σo : RS) (c : Nat) (st : List (Nat × Tag)) (g : Regions) (n s H : Nat) (t : Tail) : Prop :=
  ∃ g' n' s' E pre cH ctH, run evs (inEl σo .if_ c st g n s) = .ok (σo.upd g' n' s') ∧ n ≤ n' ∧
    rget g H = some (pre ++ [.ifE cH ctH 0]) ∧ rget g' H = some (pre ++ [.ifE cH ctH E]) ∧
    (∀ id, id < n → id ≠ H → rget g' id = rget g id) ∧ (∀ id, n' ≤ id → rget g' id = none) ∧
    (∀ id, n ≤ id → id < n' → (rget g' id).isSome) ∧ DenT g' n n' E t

/-- `ReadsTail` has the fields of `Grows g g' n n' H` written out; `.intro` packs, `.elim` unpacks them -/
theorem ReadsTail.intro {evs : List Sax} {σo : RS} {c : Nat} {st : List (Nat × Tag)} {g g' : Regions}
    {n s H n' s' E : Nat} {t : Tail} {pre : List Exec} {cH : Data} {ctH : Nat}
    (hrun : run evs (inEl σo .if_ c st g n s) = .ok (σo.upd g' n' s')) (hG : Grows g g' n n' H)
    (hH : rget g H = some (pre ++ [.ifE cH ctH 0])) (hH' : rget g' H = some (pre ++ [.ifE cH ctH E]))
    (hD : DenT g' n n' E t) : ReadsTail evs σo c st g n s H t :=
  ⟨g', n', s', E, pre, cH, ctH, hrun, hG.le, hH, hH', hG.old, hG.fresh, hG.alloc, hD⟩

theorem ReadsTail.elim {evs : List Sax} {σo : RS} {c : Nat} {st : List (Nat × Tag)} {g : Regions} {n s H : Nat}
    {t : Tail} (h : ReadsTail evs σo c st g n s H t) {pre : List Exec} {cH : Data} {ctH : Nat}
    (hH : rget g H = some (pre ++ [.ifE cH ctH 0])) :
    ∃ g' n' s' E, run evs (inEl σo .if_ c st g n s) = .ok (σo.upd g' n' s') ∧ Grows g g' n n' H ∧
      rget g' H = some (pre ++ [.ifE cH ctH E]) ∧ DenT g' n n' E t := by
  obtain ⟨g', n', s', E, pre', cH', ctH', hrun, hle, hH0, hH', hold, hfresh, halloc, hD⟩ := h
  obtain ⟨rfl, rfl, rfl, _⟩ := ifE_last_inj (hH.symm.trans hH0)
  exact ⟨g', n', s', E, hrun, ⟨hle, hold, hfresh, halloc⟩, hH', hD⟩

theorem Reads.leaf (c : Content) (hl : LeafOK c) (σ : RS) (es : List Exec) (hR : Ready σ es) :
    Reads (saxC c) σ es [normC c] := by
  obtain ⟨e, s', hrun, hd, _⟩ := hl σ es hR
  have hG : Grows σ.fsm.regions (rset σ.fsm.regions σ.curEc (es ++ [e])) σ.nextId σ.nextId σ.curEc :=
    ⟨Nat.le_refl _, fun id _ hne => by simp [rget_rset, hne],
      fun id hid => by simp [rget_rset, show id ≠ σ.curEc by have := hR.curLt; omega, hR.fresh id hid],
      fun id h1 h2 => by omega⟩
  refine ⟨_, σ.nextId, s', [e], hrun, hG.post (by simp [rget_rset]), fun gg fuel _ _ => mapO_single _ _ _ ?_⟩
  rw [dEntry_of_leaf _ e (by simp [hd]), hd]

theorem Reads.nil (σ : RS) (es : List Exec) (hR : Ready σ es) : Reads [] σ es [] :=
  ⟨σ.fsm.regions, σ.nextId, σ.nextSrc, [], rfl, (Grows.refl _ hR.fresh).post (by simpa using hR.reg),
    fun gg fuel _ _ => rfl⟩

theorem Reads.append {ev1 ev2 : List Sax} {σ : RS} {es : List Exec} {b1 b2 : Block} (hR : Ready σ es)
    (h1 : Reads ev1 σ es b1)
    (h2 : ∀ g' n' s' new, Post σ es new g' n' → Reads ev2 (σ.upd g' n' s') (es ++ new) b2) :
    Reads (ev1 ++ ev2) σ es (b1 ++ b2) := by
  obtain ⟨g1, n1, s1, new1, hrun1, hP1, hD1⟩ := h1
  obtain ⟨g2, n2, s2, new2, hrun2, hP2, hD2⟩ := h2 g1 n1 s1 new1 hP1
  have hG2 : Grows g1 g2 n1 n2 σ.curEc := hP2.grows
  have hr2 : rget g2 σ.curEc = some (es ++ new1 ++ new2) := hP2.reg
  have hlt := hR.curLt
  refine ⟨g2, n2, s2, new1 ++ new2, (run_append_ok hrun1 _).trans hrun2,
    (hP1.grows.trans hG2 (.inl rfl) (by omega)).post (by rw [hr2, List.append_assoc]), ?_⟩
  intro gg fuel hag hfuel
  exact mapO_append _ _ _ _ _
    (hD1.frame (Nat.le_refl _) hG2.le (fun id h1 h2 => hG2.old id h2 (by omega)) gg fuel hag hfuel)
    (DenL.frame hD2 hP1.le (Nat.le_refl _) (fun _ _ _ => rfl) gg fuel hag hfuel)

theorem Reads.body {σo : RS} {es0 : List Exec} (hR : Ready σo es0) {tag : Tag} (htag : tag = .if_ ∨ tag = .foreach)
    {c : Nat} (st : List (Nat × Tag)) {g : Regions} {n : Nat} (s : Nat) (hc0 : c ≠ 0) (hcn : c < n)
    (hreg : rget g c = some []) (hfresh : ∀ id, n ≤ id → rget g id = none) {evs : List Sax} {b : Block}
    (IH : ∀ σ, Ready σ [] → Reads evs σ [] b) :
    ∃ g' n' s', run evs (inEl σo tag c st g n s) = .ok (inEl σo tag c st g' n' s') ∧ Grows g g' n n' c ∧
      (rget g' c).isSome ∧ DenB c g' n' c b := by
  obtain ⟨g', n', s', new, hrun, hP, hD⟩ := IH (inEl σo tag c st g n s)
    ⟨hR.raw, by rcases htag with h | h <;> subst h <;> simp [inEl, contentParentsNoFinalize], hc0, hcn, hreg,
      hfresh, hR.state⟩
  have hG : Grows g g' n n' c := hP.grows
  have hr : rget g' c = some new := hP.reg
  exact ⟨g', n', s', hrun, hG, by rw [hr]; rfl,
    (DenL.frame hD (by omega : c + 1 ≤ n) (Nat.le_refl _) (fun _ _ _ => rfl)).region hr (Nat.le_refl _)
      (by have := hG.le; omega)⟩

mutual
theorem content_one : (c : Content) → (σ : RS) → (es : List Exec) → Ready σ es → OkC c →
    Reads (saxC c) σ es [normC c]
  | .raise e, σ, es, hR, hok => Reads.leaf _ hok σ es hR
  | .assign l e t, σ, es, hR, hok => Reads.leaf _ hok σ es hR
  | .log l e, σ, es, hR, hok => Reads.leaf _ hok σ es hR
  | .script t, σ, es, hR, hok => Reads.leaf _ hok σ es hR
  | .send s, σ, es, hR, hok => Reads.leaf _ hok σ es hR
  | .cancel i e, σ, es, hR, hok => Reads.leaf _ hok σ es hR
  | .foreach a i x b, σ, es, hR, hok => by
    have hokb : OkB b := hok
    have hlt := hR.curLt
    obtain ⟨g1, hstep, hO⟩ := step_startForeach σ a i x es hR
    obtain ⟨hG1, hr1, hn1⟩ := hO.grows hlt hR.fresh
    obtain ⟨g2, n2, s2, hrun2, hG2, hs2, hB⟩ := Reads.body hR (.inr rfl) ((σ.curEc, .foreach) :: σ.ecStack)
      (σ.nextSrc + 1) (by omega) (Nat.lt_succ_self _) hn1 hG1.fresh (fun σ' h => content_block b σ' [] h hokb)
    refine ⟨g2, n2, s2, [.foreach (.source a σ.nextSrc) i x σ.nextId], ?_,
      (hG1.trans hG2 (.inr (Nat.le_refl _)) (fun _ => hs2)).post (by rw [hG2.old _ (by omega) (by omega), hr1]),
      denL_foreach hB a _ i x⟩
    simp only [saxC]
    rw [run_bracket hstep hrun2]
    exact run_cons_ok (step_stopEl σ .foreach t_foreach σ.nextId _ g2 n2 s2 (by decide) (Or.inr rfl) hR.raw
      (unwind_same (by omega)))
  | .ite c b t, σ, es, hR, hok => by
    have hok' : OkB b ∧ OkT t := hok
    have hlt := hR.curLt
    obtain ⟨g1, hstep, hO⟩ := step_startIf σ c es hR
    obtain ⟨hG1, hr1, hn1⟩ := hO.grows hlt hR.fresh
    obtain ⟨g2, n2, s2, hrun2, hG2, hs2, hB⟩ := Reads.body hR (.inl rfl) ((σ.curEc, .if_) :: σ.ecStack)
      (σ.nextSrc + 1) (by omega) (Nat.lt_succ_self _) hn1 hG1.fresh (fun σ' h => content_block b σ' [] h hok'.1)
    have hle2 := hG2.le
    have hcur2 : rget g2 σ.curEc = some (es ++ [.ifE (.source c σ.nextSrc) σ.nextId 0]) := by
      rw [hG2.old _ (by omega) (by omega), hr1]
    obtain ⟨g3, n3, s3, E, hrun3, hG3, hH3, hDT⟩ :=
      (content_tail t σ σ.nextId ((σ.curEc, .if_) :: σ.ecStack) g2 n2 s2 σ.curEc 0 σ.nextId hR
        (by omega) (Or.inl rfl) hG2.fresh (.here hR.cur0 hlt hcur2) (by omega) (by omega) hok'.2).elim hcur2
    refine ⟨g3, n3, s3, [.ifE (.source c σ.nextSrc) σ.nextId E], ?_,
      ((hG1.trans hG2 (.inr (Nat.le_refl _)) (fun _ => hs2)).trans hG3 (.inl rfl) (by omega)).post hH3,
      denL_ite hB hG3 hlt (by omega) hDT c _⟩
    simp only [saxC]
    rw [run_bracket hstep hrun2]
    exact hrun3

theorem content_block : (b : List Content) → (σ : RS) → (es : List Exec) → Ready σ es → OkB b →
    Reads (saxB b) σ es (normB b)
  | [], σ, es, hR, _ => by simpa [saxB, normB] using Reads.nil σ es hR
  | c :: cs, σ, es, hR, hok => by
    have hok' : OkC c ∧ OkB cs := hok
    have h1 := content_one c σ es hR hok'.1
    have := Reads.append hR h1 (fun g' n' s' new hP => content_block cs _ _ (ready_upd hR hP) hok'.2)
    simpa [saxB, normB] using this

/-- The rest of an `<if>` of `σo` after a branch body (`c`: the branch just read, `n`: the id counter).  `H` ends the
else chain from `σo.curEc`, which has length `k` and lies below `m` (`Walk`); each `<elseif>` makes it one longer.
`k < n`: the loop `setDeepestElse` takes `k + 1` steps and has fuel `nextId`, `n + 1` or `n + 2` (`step_else`,
`step_elseif`).  `m ≤ n`: the regions opened from here on are above the chain and leave it alone (`Walk.set`).
`st`, `g`, `s`: region stack, region table and source id counter of the reader state (`inEl σo .if_ c st g n s`). -/
theorem content_tail : (t : Tail) → (σo : RS) → (c : Nat) → (st : List (Nat × Tag)) → (g : Regions) →
    (n s H k m : Nat) → {es0 : List Exec} → Ready σo es0 → c ≠ 0 → IfStack st σo.curEc σo.ecStack →
    (∀ id, n ≤ id → rget g id = none) → Walk g m σo.curEc H k → k < n → m ≤ n → OkT t →
    ReadsTail (saxT t) σo c st g n s H (normT t)
  | .none, σo, c, st, g, n, s, H, k, m, es0, hR, hc, hst, hfresh, hw, hk, hm, _ => by
    obtain ⟨_, _, pre, cH, ctH, hH⟩ := hw.end_
    refine .intro (s' := s) ?_ (Grows.refl H hfresh) hH hH (Or.inl ⟨rfl, by simp [normT]⟩)
    simp only [saxT]
    rw [run_cons_ok (step_stopEl σo .if_ t_if c st g n s (by decide) (Or.inl rfl) hR.raw (unwind_ifStack hc hst))]
    rfl
  | .els b, σo, c, st, g, n, s, H, k, m, es0, hR, hc, hst, hfresh, hw, hk, hm, hok => by
    have hokb : OkB b := hok
    obtain ⟨hH0, hHm, _⟩ := hw.end_
    -- the new else region `n`, linked at the end `H` of the chain
    obtain ⟨pre, cH, ctH, hH, hset⟩ := hw.set (gA := rset g n [])
      (fun id hid => by simp [rget_rset, show id ≠ n by omega]) (n + 1) n (by omega)
    have hO : Opened g (rset (rset g n []) H (pre ++ [.ifE cH ctH n])) H (pre ++ [.ifE cH ctH n]) n :=
      fun id => by simp only [rget_rset]
    obtain ⟨hG1, hr1, hn1⟩ := hO.grows (by omega) hfresh
    obtain ⟨g2, n2, s2, hrun2, hG2, hs2, hB⟩ := Reads.body hR (.inl rfl) ((σo.curEc, .if_) :: σo.ecStack) s
      (by omega) (Nat.lt_succ_self _) hn1 hG1.fresh (fun σ' h => content_block b σ' [] h hokb)
    refine .intro (s' := s2) ?_ (hG1.trans hG2 (.inr (Nat.le_refl _)) (fun _ => hs2)) hH
      (by rw [hG2.old _ (by omega) (by omega), hr1]) (Or.inr ⟨by omega, normB b, by simp [normT], hB⟩)
    simp only [saxT]
    rw [run_bracket (step_else σo c st g _ n s σo.curEc σo.ecStack hR.raw (unwind_ifStack hc hst) hset) hrun2]
    exact run_cons_ok (step_stopEl σo .if_ t_if n _ g2 n2 s2 (by decide) (Or.inl rfl) hR.raw
      (unwind_same (by omega)))
  | .elif c2 b2 t2, σo, c, st, g, n, s, H, k, m, es0, hR, hc, hst, hfresh, hw, hk, hm, hok => by
    have hok' : OkB b2 ∧ OkT t2 := hok
    obtain ⟨hH0, hHm, _⟩ := hw.end_
    have hn0 : n ≠ 0 := by omega
    obtain ⟨pre, cH, ctH, hH, hset⟩ := hw.set (gA := elseifRegions g n s c2)
      (fun id hid => by rw [rget_elseifRegions, if_neg (by omega), if_neg (by omega)]) (n + 2) n (by omega)
    obtain ⟨hG1, hrH, hrn, hrn1⟩ := elseif_grows s c2 (pre ++ [.ifE cH ctH n]) (by omega : H < n) hfresh
    obtain ⟨g2, n2, s2, hrun2, hG2, hs2, hB⟩ := Reads.body hR (.inl rfl)
      ((n, .elseif) :: (σo.curEc, .if_) :: σo.ecStack) (s + 1) (by omega) (Nat.lt_succ_self _) hrn1 hG1.fresh
      (fun σ' h => content_block b2 σ' [] h hok'.1)
    have hle2 := hG2.le
    -- the chain now ends in region `n`
    have hw2 : Walk g2 (n + 1) σo.curEc n (k + 1) :=
      (Walk.extend (preE := []) hw hn0 hm hrH hrn (fun id hid hne' => hG1.old id (by omega) hne')).frame
        (fun id hid => hG2.old id (by omega) (by omega))
    have hg2n : rget g2 n = some ([] ++ [.ifE (.source c2 s) (n + 1) 0]) := by
      rw [hG2.old n (by omega) (by omega), hrn]; rfl
    obtain ⟨g3, n3, s3, E2, hrun3, hG3, hH3, hDT⟩ :=
      (content_tail t2 σo (n + 1) ((n, .elseif) :: (σo.curEc, .if_) :: σo.ecStack) g2 n2 s2 n (k + 1) (n + 1) hR
        (by omega) (Or.inr ⟨n, hn0, rfl⟩) hG2.fresh hw2 (by omega) (by omega) hok'.2).elim hg2n
    have hle3 := hG3.le
    refine .intro (s' := s3) ?_
      ((hG1.trans hG2 (.inr (by omega)) (fun _ => hs2)).trans hG3 (.inr (Nat.le_refl _)) (fun _ => by rw [hH3]; rfl))
      hH (by rw [hG3.old H (by omega) (by omega), hG2.old H (by omega) (by omega), hrH])
      (Or.inr ⟨hn0, [.ite c2 (normB b2) (normT t2)], by simp [normT],
        (denL_ite hB hG3 (Nat.lt_succ_self _) (by omega) hDT c2 s).region (by simpa using hH3) (Nat.le_refl _)
          (by omega)⟩)
    simp only [saxT]
    rw [run_bracket
      (step_elseif σo c st g _ n s σo.curEc σo.ecStack c2 hR.raw hn0 (unwind_ifStack hc hst) hset) hrun2]
    exact hrun3
end

end Rfsm.Reader
