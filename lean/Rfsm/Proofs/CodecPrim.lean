import Rfsm.Model.Codec
/-!
The primitive layer of M-CODEC: what one reader call does on the bytes one writer call emitted, and
how `bytesOf` splits a call sequence into those.
-/
namespace Rfsm.Codec

/-- one step of `read_additional_number_bytes`: `number = (number << 8) | byte` on `u64` -/
def step64 (a b : Nat) : Nat := (a * 256) % two64 + b

theorem readMore_append (bs rest : List Nat) (t n : Nat) (p : Option Site) :
    readMore bs.length ⟨bs ++ rest, true, t, n, p⟩ =
      ⟨rest, true, t, bs.foldl step64 n, p⟩ := by
  induction bs generalizing n with
  | nil => simp [readMore]
  | cons b bs ih => simp [readMore, ih, step64]

/-- `read_type_and_size` in a good state with a byte to read, by that byte's type nibble `hi` and low
nibble `lo` -/
theorem rts_cons (hi lo : Nat) (hh : hi % 16 = 0) (hl : lo < 16) (r : List Nat) (t n : Nat) (p : Option Site) :
    readTypeAndSize ⟨(hi + lo) :: r, true, t, n, p⟩ =
      if hi = 0x10 then ([], ⟨r, true, hi + lo, n, p⟩)
      else if 0x30 ≤ hi ∧ hi ≤ 0xB0 then ([], readMore ((hi - 0x30) / 16) ⟨r, true, hi, lo, p⟩)
      else if hi = 0xC0 then readStrPayload lo ⟨r, true, 0xC0, 0, p⟩
      else if hi = 0xD0 then
        match r with
        | [] => ([], RState.error ⟨r, true, 0xD0, 0, p⟩)
        | b :: r' => readStrPayload (lo * 256 + b) ⟨r', true, 0xD0, 0, p⟩
      else if hi = 0xE0 then readLongStr ⟨r, true, t, n, p⟩
      else ([], ⟨r, true, t, n, p⟩) := by
  have hhi : (hi + lo) / 16 * 16 = hi := by omega
  have hlo : (hi + lo) % 16 = lo := by omega
  rw [readTypeAndSize, if_pos rfl]
  dsimp only
  rw [hhi, hlo]
  rfl

/-- `read_uint` on size class `k`: the type byte carries the top nibble `nib`, the `k` bytes `bs` follow -/
theorem readUInt_num (k nib : Nat) (hk : k ≤ 8) (hn : nib < 16) (bs rest : List Nat) (hl : bs.length = k)
    (t n : Nat) (p : Option Site) :
    readUIntS ⟨(0x30 + 16 * k + nib) :: (bs ++ rest), true, t, n, p⟩ =
      (bs.foldl step64 nib, ⟨rest, true, 0x30 + 16 * k, bs.foldl step64 nib, p⟩) := by
  subst hl
  have hk' : (0x30 + 16 * bs.length - 0x30) / 16 = bs.length := by omega
  have : isNumTid (0x30 + 16 * bs.length) = true := by
    simp [isNumTid]; omega
  rw [readUIntS, rts_cons _ nib (by omega) hn, if_neg (by omega), if_pos (by omega), hk', readMore_append]
  simp [this]

/-! ### `write_type_and_value`: a nibble on top of `k` big-endian bytes -/

theorem tvTail_succ (v k fuel : Nat) :
    tvTail v (fuel + 1) (8 * (k + 1)) = v / 256 ^ k % 256 :: tvTail v fuel (8 * k) := by
  have e : 8 * (k + 1) - 8 = 8 * k := by omega
  simp [tvTail, e, Nat.pow_mul]

theorem tvTail_length (v k fuel : Nat) (h : k ≤ fuel) : (tvTail v fuel (8 * k)).length = k := by
  induction k generalizing fuel with
  | zero => cases fuel <;> simp [tvTail]
  | succ k ih =>
    obtain ⟨fuel, rfl⟩ : ∃ f, fuel = f + 1 := ⟨fuel - 1, by omega⟩
    simp [tvTail_succ, ih fuel (by omega)]

/-- read back by `step64` from `n`, the `k` bytes put the low `k` base-256 digits of `v` under `n`,
provided the result fits `u64` (then no intermediate shift overflows either) -/
theorem tvTail_foldl (v k fuel n : Nat) (h : k ≤ fuel) (hfit : n * 256 ^ k + v % 256 ^ k < two64) :
    (tvTail v fuel (8 * k)).foldl step64 n = n * 256 ^ k + v % 256 ^ k := by
  induction k generalizing fuel n with
  | zero => cases fuel <;> simp [tvTail, Nat.mod_one]
  | succ k ih =>
    obtain ⟨fuel, rfl⟩ : ∃ f, fuel = f + 1 := ⟨fuel - 1, by omega⟩
    have hm : v % 256 ^ (k + 1) = v % 256 ^ k + 256 ^ k * (v / 256 ^ k % 256) := Nat.mod_pow_succ
    have e1 : n * 256 ^ (k + 1) = (n * 256) * 256 ^ k := by
      rw [Nat.pow_succ, Nat.mul_comm (256 ^ k), Nat.mul_assoc]
    have e2 : (n * 256 + v / 256 ^ k % 256) * 256 ^ k =
        n * 256 * 256 ^ k + 256 ^ k * (v / 256 ^ k % 256) := by
      rw [Nat.add_mul, Nat.mul_comm (v / 256 ^ k % 256)]
    have hle : n * 256 ≤ n * 256 * 256 ^ k := Nat.le_mul_of_pos_right _ (Nat.pow_pos (by omega))
    have hs : step64 n (v / 256 ^ k % 256) = n * 256 + v / 256 ^ k % 256 := by
      rw [step64, Nat.mod_eq_of_lt (by omega)]
    rw [tvTail_succ, List.foldl_cons, hs, ih fuel _ (by omega) (by omega)]
    omega

theorem nibble_lt {v k : Nat} (h : v < 2 ^ (8 * k + 4)) : v / 256 ^ k < 16 := by
  rw [Nat.pow_add, Nat.pow_mul] at h
  exact (Nat.div_lt_iff_lt_mul (Nat.pow_pos (by omega))).mpr (Nat.mul_comm _ _ ▸ h)

/-- `write_type_and_value(tid, v, 8k+4)` for a `u64` below `2^(8k+4)`: what is above the `k` bytes
fits the nibble (and is 0 in the 68 bit form, where the code writes a 0 nibble) -/
theorem tvBytes_nibble_tail (tid v k : Nat) (hv : v < 2 ^ (8 * k + 4)) (h64 : v < two64) :
    tvBytes tid v (8 * k + 4) = (tid + v / 256 ^ k) :: tvTail v (8 * k) (8 * k) := by
  have : tvNibble v (8 * k) = v / 256 ^ k := by
    unfold tvNibble
    rw [Nat.pow_mul]
    split
    · -- `8 * k ≥ 64`: the 68 bit form, `v < two64 ≤ 256 ^ k`
      have : two64 ≤ 256 ^ k := Nat.pow_le_pow_right (n := 256) (i := 8) (by omega) (by omega)
      exact (Nat.div_eq_of_lt (by omega)).symm
    · exact Nat.mod_eq_of_lt (nibble_lt hv)
  simp [tvBytes, this]

/-- the nine size classes of `write_uint` are one form: class `k` takes `v < 2^(8k+4)` -/
theorem uintOp_tv (v : Nat) (hv : v < 2 ^ 64) :
    ∃ k, k ≤ 8 ∧ v < 2 ^ (8 * k + 4) ∧ uintOp v = .tv (0x30 + 16 * k) v (8 * k + 4) := by
  unfold uintOp
  -- not `split`: some twenty times as dear to check here
  by_cases h0 : v < 2 ^ 4; · exact ⟨0, by decide, h0, if_pos h0⟩
  rw [if_neg h0]
  by_cases h1 : v < 2 ^ 12; · exact ⟨1, by decide, h1, if_pos h1⟩
  rw [if_neg h1]
  by_cases h2 : v < 2 ^ 20; · exact ⟨2, by decide, h2, if_pos h2⟩
  rw [if_neg h2]
  by_cases h3 : v < 2 ^ 28; · exact ⟨3, by decide, h3, if_pos h3⟩
  rw [if_neg h3]
  by_cases h4 : v < 2 ^ 36; · exact ⟨4, by decide, h4, if_pos h4⟩
  rw [if_neg h4]
  by_cases h5 : v < 2 ^ 44; · exact ⟨5, by decide, h5, if_pos h5⟩
  rw [if_neg h5]
  by_cases h6 : v < 2 ^ 52; · exact ⟨6, by decide, h6, if_pos h6⟩
  rw [if_neg h6]
  by_cases h7 : v < 2 ^ 60; · exact ⟨7, by decide, h7, if_pos h7⟩
  rw [if_neg h7]
  exact ⟨8, by decide, Nat.lt_trans hv (by decide), rfl⟩

/-- `read_uint` on the bytes of `write_uint(v)`, every `u64`, followed by anything -/
theorem readUInt_roundtrip (v : Nat) (hv : v < 2 ^ 64) (rest : List Nat) (t n : Nat) (p : Option Site) :
    ∃ t', readUIntS ⟨(uintOp v).bytes ++ rest, true, t, n, p⟩ = (v, ⟨rest, true, t', v, p⟩) := by
  obtain ⟨k, hk, hvk, e⟩ := uintOp_tv v hv
  have hval : v / 256 ^ k * 256 ^ k + v % 256 ^ k = v := Nat.div_add_mod' v _
  refine ⟨0x30 + 16 * k, ?_⟩
  rw [e, Op.bytes, tvBytes_nibble_tail _ v k hvk hv, List.cons_append,
    readUInt_num k _ hk (nibble_lt hvk) _ rest (tvTail_length v k _ (by omega)),
    tvTail_foldl v k _ _ (by omega) (by rw [hval]; exact hv), hval]

/-! ### `write_str`: the length in the nibble, in 12 bits, or in eight bytes after the type 0xE0 -/

theorem strBytes_short (s : Str) (h : s.length < 16) :
    (Op.str s).bytes = (0xC0 + s.length) :: s := by
  simp [Op.bytes, strHeader, h, tvBytes, tvTail, tvNibble]

theorem strBytes_mid (s : Str) (h : 16 ≤ s.length) (h' : s.length < 4096) :
    (Op.str s).bytes = (0xD0 + s.length / 256) :: s.length % 256 :: s := by
  have h1 : ¬ s.length < 16 := by omega
  simp [Op.bytes, strHeader, h1, h', tvBytes, tvTail, tvNibble]
  omega

theorem strBytes_long (s : Str) (h : 4096 ≤ s.length) :
    (Op.str s).bytes = 0xE0 :: (tvTail s.length 64 64 ++ s) := by
  have h1 : ¬ s.length < 16 := by omega
  have h2 : ¬ s.length < 4096 := by omega
  simp [Op.bytes, strHeader, h1, h2, tvBytes, tvNibble]

theorem readStrPayload_exact (s rest : Str) (hu : validUtf8 s = true) (t n : Nat) (p : Option Site) :
    readStrPayload s.length ⟨s ++ rest, true, t, n, p⟩ = (s, ⟨rest, true, t, n, p⟩) := by
  simp [readStrPayload, hu]
  intro h
  omega

/-- the `type_id` left behind by reading `write_str(s)`: the `t'` of `Reads.str` -/
def strTid (s : Str) : Nat := if s.length < 16 then 0xC0 else if s.length < 4096 then 0xD0 else 0xE0

theorem strTid_cases (s : Str) : strTid s = 0xC0 ∨ strTid s = 0xD0 ∨ strTid s = 0xE0 := by
  unfold strTid; split
  · exact Or.inl rfl
  · split
    · exact Or.inr (Or.inl rfl)
    · exact Or.inr (Or.inr rfl)

theorem rts_str (s : Str) (h : s.length < 2 ^ 64) (hu : validUtf8 s = true) (rest : List Nat) (t n : Nat)
    (p : Option Site) :
    readTypeAndSize ⟨(Op.str s).bytes ++ rest, true, t, n, p⟩ = (s, ⟨rest, true, strTid s, 0, p⟩) := by
  unfold strTid
  by_cases hs : s.length < 16
  · rw [strBytes_short s hs, List.cons_append, rts_cons 0xC0 _ rfl hs]
    simp [readStrPayload_exact s rest hu, hs]
  · by_cases hm : s.length < 4096
    · have hl : s.length / 256 * 256 + s.length % 256 = s.length := by omega
      rw [strBytes_mid s (by omega) hm, List.cons_append, List.cons_append, rts_cons 0xD0 _ rfl (by omega)]
      simp [hl, readStrPayload_exact s rest hu, hs, hm]
    · have hm8 := readMore_append (tvTail s.length 64 64) (s ++ rest) 0xE0 0 p
      rw [tvTail_length _ 8 64 (by omega), tvTail_foldl _ 8 64 0 (by omega) (by simp [two64]; omega)] at hm8
      simp only [Nat.zero_mul, Nat.zero_add, Nat.mod_eq_of_lt (show s.length < 256 ^ 8 from h)] at hm8
      have e : readTypeAndSize ⟨0xE0 :: (tvTail s.length 64 64 ++ (s ++ rest)), true, t, n, p⟩ = _ :=
        rts_cons 0xE0 0 rfl (by omega) _ t n p
      rw [strBytes_long s (by omega), List.cons_append, List.append_assoc, e]
      simp [readLongStr, hm8, longStrPayload, readStrPayload_exact s rest hu, hs, hm]

/-- `read_string` on the bytes of `write_str(s)`, any length, followed by anything -/
theorem readString_roundtrip (s : Str) (h : s.length < 2 ^ 64) (hu : validUtf8 s = true) (rest : List Nat)
    (t n : Nat) (p : Option Site) :
    readStringS ⟨(Op.str s).bytes ++ rest, true, t, n, p⟩ = (s, ⟨rest, true, strTid s, 0, p⟩) := by
  simp only [readStringS, rts_str s h hu rest t n p]
  rcases strTid_cases s with e | e | e <;> simp [e]

theorem readOptStr_some (s : Str) (h : s.length < 2 ^ 64) (hu : validUtf8 s = true) (rest : List Nat)
    (t n : Nat) (p : Option Site) :
    readOptStrS ⟨(optStrOp (some s)).bytes ++ rest, true, t, n, p⟩ =
      (some s, ⟨rest, true, strTid s, 0, p⟩) := by
  simp only [readOptStrS, optStrOp, if_true, rts_str s h hu rest t n p]
  rcases strTid_cases s with e | e | e <;> simp [e]

theorem readOptStr_none (rest : List Nat) (t n : Nat) (p : Option Site) :
    readOptStrS ⟨(optStrOp none).bytes ++ rest, true, t, n, p⟩ = (none, ⟨rest, true, 0x10, n, p⟩) := by
  simp [readOptStrS, optStrOp, Op.bytes, readTypeAndSize]

theorem readBool_roundtrip (b : Bool) (rest : List Nat) (t n : Nat) (p : Option Site) :
    readBoolS ⟨(boolOp b).bytes ++ rest, true, t, n, p⟩ = (b, ⟨rest, true, t, n, p⟩) := by
  cases b <;> simp [readBoolS, boolOp, Op.bytes]

@[simp] theorem bytesOf_nil : bytesOf [] = [] := rfl
@[simp] theorem bytesOf_cons (op : Op) (r : List Op) : bytesOf (op :: r) = op.bytes ++ bytesOf r := by
  simp [bytesOf]
@[simp] theorem bytesOf_append (a b : List Op) : bytesOf (a ++ b) = bytesOf a ++ bytesOf b := by
  simp [bytesOf]

theorem bytesOf_flatMap {α} (f : α → List Op) (l : List α) :
    bytesOf (l.flatMap f) = l.flatMap (fun a => bytesOf (f a)) := by
  induction l with
  | nil => rfl
  | cons a l ih => simp [List.flatMap_cons, ih]

end Rfsm.Codec
