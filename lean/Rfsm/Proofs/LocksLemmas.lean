import Rfsm.Model.Locks
/-!
The lock machine `Rfsm.Locks`.  Safety: a per-thread predicate that follows the program is an invariant
(`reach_inv`); `OrderedP` is one, and a state in which it holds has no deadlocked set, by the
maximal-element argument (`orderedP_no_deadlock`).  Liveness needs no order: a balanced system whose
reachable states are free of deadlock always has an enabled thread and can be run to the end
(`progress`, `completes`).  `order_live` puts the two together.
-/
namespace Rfsm.Locks

variable {L : Type}

theorem waitsFor_iff {s : Sys L} {t : Nat} {l : L} :
    waitsFor s t = some l ↔ ∃ th rest, s[t]? = some th ∧ th.prog = .acquire l :: rest := by
  constructor
  · intro h
    unfold waitsFor at h
    split at h
    · rename_i th hth
      split at h
      · rename_i l' rest hp
        cases h
        exact ⟨th, rest, hth, hp⟩
      · cases h
    · cases h
  · rintro ⟨th, rest, hth, hp⟩
    simp only [waitsFor, hth, hp]

theorem start_getElem? {progs : List (List (Op L))} {u : Nat} {th : Thread L}
    (h : (start progs)[u]? = some th) : ∃ p, progs[u]? = some p ∧ th = ⟨p, []⟩ := by
  simp only [start, List.getElem?_map] at h
  cases hp : progs[u]? with
  | none => simp [hp] at h
  | some p =>
    simp [hp] at h
    exact ⟨p, rfl, h.symm⟩

theorem start_allThreads {P : Nat → List L → List (Op L) → Prop} {progs : List (List (Op L))}
    (h : ∀ (u : Nat) (p : List (Op L)), progs[u]? = some p → P u [] p) :
    AllThreads P (start progs) := by
  intro u th hth
  obtain ⟨p, hp, rfl⟩ := start_getElem? hth
  exact h u p hp

theorem not_allFinished_unfinished {s : Sys L} (h : allFinished s = false) : unfinished s := by
  simp only [allFinished, List.all_eq_false] at h
  obtain ⟨th, hth, hp⟩ := h
  obtain ⟨u, hu, rfl⟩ := List.getElem_of_mem hth
  exact ⟨u, s[u], List.getElem?_eq_getElem hu, fun e => hp (by simp [e])⟩

variable [DecidableEq L]

theorem owner_eq_none_iff (s : Sys L) (l : L) :
    owner s l = none ↔ ∀ th ∈ s, l ∉ th.held := by
  simp [owner, List.findIdx?_eq_none_iff]

theorem holds_of_owner_ne_none {s : Sys L} {l : L} (h : owner s l ≠ none) :
    ∃ u, holds s u l := by
  obtain ⟨u, hu⟩ := Option.ne_none_iff_exists'.1 h
  obtain ⟨hlt, hp, _⟩ := List.findIdx?_eq_some_iff_getElem.1 hu
  exact ⟨u, s[u], List.getElem?_eq_getElem hlt, of_decide_eq_true hp⟩

theorem step_cases {s s' : Sys L} {t : Nat} (h : step s t = some s') :
    ∃ th op rest held', s[t]? = some th ∧ th.prog = op :: rest ∧ s' = s.set t ⟨rest, held'⟩ ∧
      ((∃ l, op = .acquire l ∧ owner s l = none ∧ held' = l :: th.held) ∨
       (∃ l, op = .release l ∧ held' = th.held.erase l)) := by
  unfold step at h
  split at h
  · simp at h
  · rename_i th hth
    split at h
    · simp at h
    · rename_i l rest hp
      split at h
      · rename_i ho
        exact ⟨th, _, rest, _, hth, hp, (Option.some.inj h).symm, Or.inl ⟨l, rfl, ho, rfl⟩⟩
      · simp at h
    · rename_i l rest hp
      exact ⟨th, _, rest, _, hth, hp, (Option.some.inj h).symm, Or.inr ⟨l, rfl, rfl⟩⟩

theorem getElem?_set_cases {α : Type} {s : List α} {t u : Nat} {a b : α}
    (h : (s.set t a)[u]? = some b) : (u = t ∧ b = a) ∨ (u ≠ t ∧ s[u]? = some b) := by
  rw [List.getElem?_set] at h
  split at h
  · rename_i htu
    split at h
    · injection h with h
      exact Or.inl ⟨htu.symm, h.symm⟩
    · simp at h
  · rename_i htu
    exact Or.inr ⟨fun e => htu e.symm, h⟩

theorem step_inv {P : Nat → List L → List (Op L) → Prop}
    (hacq : ∀ u held l rest, P u held (.acquire l :: rest) → P u (l :: held) rest)
    (hrel : ∀ u held l rest, P u held (.release l :: rest) → P u (held.erase l) rest)
    {s s' : Sys L} {t : Nat} (hs : AllThreads P s)
    (h : step s t = some s') : AllThreads P s' := by
  obtain ⟨th, op, rest, held', hth, hp, rfl, hc⟩ := step_cases h
  intro u th' hu
  rcases getElem?_set_cases hu with ⟨rfl, rfl⟩ | ⟨_, hu'⟩
  · have := hs u th hth
    rw [hp] at this
    rcases hc with ⟨l, rfl, _, rfl⟩ | ⟨l, rfl, rfl⟩
    · exact hacq _ _ _ _ this
    · exact hrel _ _ _ _ this
  · exact hs u th' hu'

theorem reach_inv {P : Nat → List L → List (Op L) → Prop}
    (hacq : ∀ u held l rest, P u held (.acquire l :: rest) → P u (l :: held) rest)
    (hrel : ∀ u held l rest, P u held (.release l :: rest) → P u (held.erase l) rest)
    {init s : Sys L} (hi : AllThreads P init)
    (hr : Reach init s) : AllThreads P s := by
  induction hr with
  | refl => exact hi
  | step _ hstep ih => exact step_inv hacq hrel ih hstep

theorem reach_balanced {init s : Sys L}
    (hi : AllThreads (fun _ => Balanced) init)
    (hr : Reach init s) : AllThreads (fun _ => Balanced) s :=
  reach_inv (fun _ _ _ _ h => h) (fun _ _ _ _ h => h) hi hr

/-- the invariant behind the lock-order theorem -/
theorem reach_orderedP {lt : L → L → Prop} {pv : L → Option Nat} {init s : Sys L}
    (hi : AllThreads (OrderedP lt pv) init) (hr : Reach init s) : AllThreads (OrderedP lt pv) s :=
  reach_inv (fun _ _ _ _ h => h.2.2) (fun _ _ _ _ h => h) hi hr

/-- the first conjunct of `OrderedP` at an `acquire` is what `HeldOk` asks of the new lock -/
theorem reach_heldOk {lt : L → L → Prop} {pv : L → Option Nat} {init s : Sys L}
    (hh : AllThreads (fun u held _ => HeldOk pv u held) init) (ho : AllThreads (OrderedP lt pv) init)
    (hr : Reach init s) : AllThreads (fun u held _ => HeldOk pv u held) s := fun u th hu =>
  (reach_inv (P := fun u held prog => HeldOk pv u held ∧ OrderedP lt pv u held prog)
    (fun _ _ _ _ h => ⟨fun x hx => (List.mem_cons.1 hx).elim (fun e => e ▸ h.2.1) (h.1 x), h.2.2.2⟩)
    (fun _ _ _ _ h => ⟨fun x hx => h.1 x (List.mem_of_mem_erase hx), h.2⟩)
    (fun u th hu => ⟨hh u th hu, ho u th hu⟩) hr u th hu).1

theorem orderedP_of_ordered {lt : L → L → Prop} (u : Nat) :
    ∀ (prog : List (Op L)) (held : List L), Ordered lt held prog →
      OrderedP lt (fun _ => none) u held prog
  | [], _, _ => trivial
  | .acquire l :: rest, held, h =>
    ⟨Or.inl rfl, fun x hx => Or.inl (h.1 x hx), orderedP_of_ordered u rest (l :: held) h.2⟩
  | .release l :: rest, held, h => orderedP_of_ordered u rest (held.erase l) h

theorem reach_trans {a b c : Sys L} (h1 : Reach a b) (h2 : Reach b c) : Reach a c := by
  induction h2 with
  | refl => exact h1
  | step _ hs ih => exact Reach.step ih hs

theorem exec_reach {s s' : Sys L} {sched : List Nat} (h : exec s sched = some s') :
    Reach s s' := by
  induction sched generalizing s with
  | nil =>
    simp [exec] at h
    subst h
    exact Reach.refl
  | cons t ts ih =>
    unfold exec at h
    split at h
    · rename_i s1 hs1
      exact reach_trans (Reach.step Reach.refl hs1) (ih h)
    · simp at h

theorem exec_append_eq (s : Sys L) (a b : List Nat) :
    exec s (a ++ b) = (exec s a).bind fun s1 => exec s1 b := by
  induction a generalizing s with
  | nil => rfl
  | cons t ts ih =>
    simp only [List.cons_append, exec]
    cases step s t with
    | none => rfl
    | some s' => exact ih s'

theorem exec_append {s s1 s2 : Sys L} {a b : List Nat} (h1 : exec s a = some s1)
    (h2 : exec s1 b = some s2) : exec s (a ++ b) = some s2 := by
  rw [exec_append_eq, h1]
  exact h2

theorem run_reach (s : Sys L) (sched : List Nat) : Reach s (run s sched) := by
  induction sched generalizing s with
  | nil => exact Reach.refl
  | cons t ts ih =>
    unfold run
    split
    · rename_i s1 hs1
      exact reach_trans (Reach.step Reach.refl hs1) (ih s1)
    · exact ih s

/-! ### the maximal-element argument -/

theorem exists_maximal {α : Type} (lt : α → α → Prop) (hirr : ∀ a, ¬ lt a a)
    (htr : ∀ a b c, lt a b → lt b c → lt a c) :
    ∀ S : List α, S ≠ [] → ∃ m ∈ S, ∀ x ∈ S, ¬ lt m x
  | [a], _ => ⟨a, by simp, by simpa using hirr a⟩
  | a :: b :: S, _ => by
    obtain ⟨m, hm, hmax⟩ := exists_maximal lt hirr htr (b :: S) (by simp)
    by_cases hma : lt m a
    · refine ⟨a, by simp, fun x hx hax => ?_⟩
      rcases List.mem_cons.1 hx with rfl | hx
      · exact hirr _ hax
      · exact hmax x hx (htr _ _ _ hma hax)
    · refine ⟨m, List.mem_cons_of_mem _ hm, fun x hx => ?_⟩
      rcases List.mem_cons.1 hx with rfl | hx
      · exact hma
      · exact hmax x hx

/-- **the core of the lock-order theorem**: in a state where every thread respects a strict order
on the locks (acquires only above everything it holds, private locks excepted) there is no
deadlocked set — not even a one-element one (self-deadlock). -/
theorem orderedP_no_deadlock {lt : L → L → Prop} {pv : L → Option Nat} (hirr : ∀ a, ¬ lt a a)
    (htr : ∀ a b c, lt a b → lt b c → lt a c) {s : Sys L}
    (hinv : AllThreads (OrderedP lt pv) s) : ¬ Deadlock s := by
  rintro ⟨S, hne, hS⟩
  -- a maximal one among the locks the members wait for
  have hW : S.filterMap (waitsFor s) ≠ [] := by
    obtain ⟨t, ht⟩ := List.exists_mem_of_ne_nil S hne
    obtain ⟨l, hl, _⟩ := hS t ht
    exact List.ne_nil_of_mem (List.mem_filterMap.2 ⟨t, ht, hl⟩)
  obtain ⟨l, hlW, hmax⟩ := exists_maximal lt hirr htr _ hW
  obtain ⟨m, hm, hl⟩ := List.mem_filterMap.1 hlW
  -- m waits for l, held by u, who waits for l'
  obtain ⟨l₁, hl₁, u, hu, thu, hthu, hlu⟩ := hS m hm
  cases hl.symm.trans hl₁
  obtain ⟨l', hl', _⟩ := hS u hu
  obtain ⟨thu', rest, hthu', hp⟩ := waitsFor_iff.1 hl'
  cases hthu.symm.trans hthu'
  have hou := hinv u thu hthu
  rw [hp] at hou
  rcases hou.2.1 l hlu with hlt | ⟨hpriv, hneq⟩
  · -- l is below what its holder waits for
    exact hmax l' (List.mem_filterMap.2 ⟨u, hu, hl'⟩) hlt
  · -- l is private to its holder u, yet m is about to acquire it: m = u, so l = l'
    obtain ⟨thm, restm, hthm, hpm⟩ := waitsFor_iff.1 hl
    have hom := hinv m thm hthm
    rw [hpm] at hom
    rcases hom.1 with hnone | hsome
    · cases hnone.symm.trans hpriv
    · cases hsome.symm.trans hpriv
      exact hneq (Option.some.inj (hl.symm.trans hl'))

/-! ### progress -/

theorem blocked_waits {s : Sys L} {t : Nat} {th : Thread L} (hth : s[t]? = some th)
    (hp : th.prog ≠ []) (hstep : step s t = none) :
    ∃ l, waitsFor s t = some l ∧ ∃ u, holds s u l := by
  unfold step at hstep
  rw [hth] at hstep
  simp only at hstep
  split at hstep
  · rename_i hnil
    exact absurd hnil hp
  · rename_i l rest hpr
    split at hstep
    · simp at hstep
    · rename_i ho
      exact ⟨l, waitsFor_iff.2 ⟨th, rest, hth, hpr⟩, holds_of_owner_ne_none ho⟩
  · simp at hstep

theorem stuck_is_deadlock {s : Sys L}
    (hbal : AllThreads (fun _ => Balanced) s)
    (hun : unfinished s) (hstuck : ∀ t, step s t = none) : Deadlock s := by
  have hin : ∀ t th, s[t]? = some th → th.prog ≠ [] →
      t ∈ (List.range s.length).filter fun t => (waitsFor s t).isSome := fun t th hth hp => by
    obtain ⟨l, hl, _⟩ := blocked_waits hth hp (hstuck t)
    exact List.mem_filter.2 ⟨List.mem_range.2 (List.getElem?_eq_some_iff.1 hth).1, by simp [hl]⟩
  obtain ⟨t0, th0, hth0, hp0⟩ := hun
  refine ⟨_, List.ne_nil_of_mem (hin t0 th0 hth0 hp0), fun t ht => ?_⟩
  obtain ⟨l, hl⟩ := Option.isSome_iff_exists.1 (List.mem_filter.1 ht).2
  obtain ⟨th, rest, hth, hp⟩ := waitsFor_iff.1 hl
  obtain ⟨l', hl', u, thu, hthu, hlu⟩ := blocked_waits hth (by simp [hp]) (hstuck t)
  cases hl.symm.trans hl'
  refine ⟨l, hl, u, hin u thu hthu fun e => ?_, thu, hthu, hlu⟩
  -- a finished balanced thread holds nothing
  have hb := hbal u thu hthu
  rw [e] at hb
  rw [show thu.held = [] from hb] at hlu
  cases hlu

/-- the termination measure: operations left to execute, over all threads -/
def todo (s : Sys L) : Nat := (s.map fun th => th.prog.length).sum

theorem sum_map_set_lt {α : Type} (f : α → Nat) (s : List α) (t : Nat) (a b : α)
    (h : s[t]? = some a) (hlt : f b + 1 = f a) :
    ((s.set t b).map f).sum + 1 = (s.map f).sum := by
  obtain ⟨ht, rfl⟩ := List.getElem?_eq_some_iff.1 h
  conv => rhs; rw [← List.take_append_drop t s, List.drop_eq_getElem_cons ht]
  rw [List.set_eq_take_append_cons_drop, if_pos ht]
  simp only [List.map_append, List.map_cons, List.sum_append, List.sum_cons]
  omega

theorem step_todo {s s' : Sys L} {t : Nat} (h : step s t = some s') : todo s' + 1 = todo s := by
  obtain ⟨th, op, rest, held', hth, hp, rfl, _⟩ := step_cases h
  exact sum_map_set_lt (fun (th : Thread L) => th.prog.length) s t th _ hth (by simp [hp])

/-! ### liveness, and the lock-order theorem -/

theorem progress {s : Sys L} (hbal : AllThreads (fun _ => Balanced) s) (hnd : ¬ Deadlock s)
    (hun : unfinished s) : ∃ t s', step s t = some s' :=
  Classical.byContradiction fun hn =>
    hnd <| stuck_is_deadlock hbal hun fun t =>
      Option.eq_none_iff_forall_ne_some.2 fun s' h => hn ⟨t, s', h⟩

/-- it terminates because every step uses up one operation (`todo`) -/
theorem completes {s : Sys L} (hbal : AllThreads (fun _ => Balanced) s)
    (hnd : ∀ s', Reach s s' → ¬ Deadlock s') :
    ∃ sched s', exec s sched = some s' ∧ allFinished s' = true := by
  cases hf : allFinished s with
  | true => exact ⟨[], s, rfl, hf⟩
  | false =>
    obtain ⟨t, s1, hs1⟩ := progress hbal (hnd s .refl) (not_allFinished_unfinished hf)
    have hr : Reach s s1 := Reach.step Reach.refl hs1
    have := step_todo hs1
    obtain ⟨sched, s2, he, hfin⟩ :=
      completes (reach_balanced hbal hr) fun s' h => hnd s' (reach_trans hr h)
    exact ⟨t :: sched, s2, by simp [exec, hs1, he], hfin⟩
termination_by todo s
decreasing_by omega

/-- All that a strict lock order (private locks excepted) gives, in every reachable state: no
deadlock and, when the programs give back what they take, progress and completion. -/
theorem order_live {lt : L → L → Prop} (hirr : ∀ a, ¬ lt a a)
    (htr : ∀ a b c, lt a b → lt b c → lt a c) {pv : L → Option Nat} {progs : List (List (Op L))}
    (hord : ∀ (u : Nat) (p : List (Op L)), progs[u]? = some p → OrderedP lt pv u [] p)
    {s : Sys L} (hr : Reach (start progs) s) :
    ¬ Deadlock s ∧
    ((∀ (u : Nat) (p : List (Op L)), progs[u]? = some p → Balanced [] p) →
      (unfinished s → ∃ t s', step s t = some s') ∧
      ∃ sched s', exec s sched = some s' ∧ allFinished s' = true) := by
  have hnd : ∀ s', Reach (start progs) s' → ¬ Deadlock s' := fun s' h =>
    orderedP_no_deadlock hirr htr (reach_orderedP (start_allThreads hord) h)
  refine ⟨hnd s hr, fun hbal => ?_⟩
  have hb : AllThreads (fun _ => Balanced) s := reach_balanced (start_allThreads hbal) hr
  exact ⟨progress hb (hnd s hr), completes hb fun s' h => hnd s' (reach_trans hr h)⟩

/-- the rank discipline is the lock order `rank a < rank b` without private locks -/
theorem ranked_live (rank : L → Nat) {progs : List (List (Op L))}
    (hord : ∀ p ∈ progs, Ordered (fun a b => rank a < rank b) [] p)
    {s : Sys L} (hr : Reach (start progs) s) :
    ¬ Deadlock s ∧
    ((∀ p ∈ progs, Balanced [] p) →
      (unfinished s → ∃ t s', step s t = some s') ∧
      ∃ sched s', exec s sched = some s' ∧ allFinished s' = true) := by
  have h := order_live (lt := fun a b => rank a < rank b) (pv := fun _ => none)
    (fun _ => Nat.lt_irrefl _) (fun _ _ _ => Nat.lt_trans)
    (fun u p hp => orderedP_of_ordered u p [] (hord p (List.mem_of_getElem? hp))) hr
  exact ⟨h.1, fun hbal => h.2 fun u p hp => hbal p (List.mem_of_getElem? hp)⟩

/-! ### mutual exclusion (sanity of the model: a lock never has two holders) -/

def Mutex (s : Sys L) : Prop :=
  ∀ (u v : Nat) (thu thv : Thread L) (l : L),
    s[u]? = some thu → s[v]? = some thv → l ∈ thu.held → l ∈ thv.held → u = v

omit [DecidableEq L] in
theorem set_mutex {s : Sys L} {t : Nat} {th : Thread L} {prog : List (Op L)} {held : List L}
    (hm : Mutex s) (hth : s[t]? = some th)
    (hsub : ∀ x ∈ held, x ∈ th.held ∨ ∀ (u : Nat) (thu : Thread L), s[u]? = some thu → x ∉ thu.held) :
    Mutex (s.set t ⟨prog, held⟩) := by
  have key : ∀ (v : Nat) (thv : Thread L) (x : L), x ∈ held → s[v]? = some thv → x ∈ thv.held →
      t = v := fun v thv x hx hv hxv =>
    (hsub x hx).elim (fun h => hm _ _ _ _ _ hth hv h hxv) (fun h => absurd hxv (h v thv hv))
  intro u v thu thv l hu hv hlu hlv
  rcases getElem?_set_cases hu with ⟨rfl, rfl⟩ | ⟨_, hu'⟩ <;>
    rcases getElem?_set_cases hv with ⟨rfl, rfl⟩ | ⟨_, hv'⟩
  · rfl
  · exact key v thv l hlu hv' hlv
  · exact (key u thu l hlv hu' hlu).symm
  · exact hm _ _ _ _ _ hu' hv' hlu hlv

theorem step_mutex {s s' : Sys L} {t : Nat} (hm : Mutex s) (h : step s t = some s') : Mutex s' := by
  obtain ⟨th, op, rest, held', hth, _, rfl, hc⟩ := step_cases h
  rcases hc with ⟨l, _, ho, rfl⟩ | ⟨l, _, rfl⟩
  · refine set_mutex hm hth fun x hx => ?_
    rcases List.mem_cons.1 hx with rfl | hx
    · exact Or.inr fun u thu hu => (owner_eq_none_iff s x).1 ho thu (List.mem_of_getElem? hu)
    · exact Or.inl hx
  · exact set_mutex hm hth fun x hx => Or.inl (List.mem_of_mem_erase hx)

end Rfsm.Locks
