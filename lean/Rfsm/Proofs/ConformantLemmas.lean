import Rfsm.Proofs.EntryLemmas
import Rfsm.Model.Legal
/-! `nodupB` as a proposition, and what `conformantB` gives the proofs. -/
namespace Rfsm.Interp

theorem nodupB_iff {l : List Nat} : nodupB l = true ↔ l.Nodup := by
  induction l with
  | nil => simp [nodupB]
  | cons a l ih => simp [nodupB, ih]

theorem getState_mem {d : Doc} {x : Nat} (h : getState d x ≠ default) :
    getState d x ∈ d.states ∧ 0 < x ∧ x ≤ d.states.length := by
  unfold getState at h ⊢
  split at h
  · exact absurd rfl h
  · rename_i h0
    rw [if_neg h0]
    by_cases hlt : x - 1 < d.states.length
    · rw [show d.states.getD (x - 1) default = d.states[x - 1] by simp [List.getD, hlt]]
      exact ⟨List.getElem_mem hlt, by omega, by omega⟩
    · rw [show d.states.getD (x - 1) default = default by simp [List.getD, Nat.le_of_not_lt hlt]] at h
      exact absurd rfl h

/-- what the proofs use of what `conformantB` says about one state of the table, as propositions -/
structure StateOK (d : Doc) (s : Nat) : Prop where
  parent : s = d.root ∨
    (docIdOf d (parentOf d s) < docIdOf d s ∧ isHistoryState d (parentOf d s) = false)
  history : ∀ h ∈ (getState d s).history, parentOf d h = s
  initial : (isCompoundState d s || (s == d.root && !(getState d s).kids.isEmpty)) = true →
    (getState d s).initial ≠ 0 ∧ (getTrans d (getState d s).initial).source = s ∧
    (getTrans d (getState d s).initial).target ≠ [] ∧
    ∀ t ∈ (getTrans d (getState d s).initial).target, isDescendant d t s = true
  rootReach : s = d.root ∨ d.root ∈ ancestors d s

theorem conformant_root {d : Doc} (h : conformantB d = true) :
    0 < d.root ∧ d.root ≤ d.states.length ∧ parentOf d d.root = 0 := by
  unfold conformantB at h
  simp only [Bool.and_eq_true, decide_eq_true_eq, beq_iff_eq] at h
  -- conjuncts: root valid, root parent, root no history state, ids, per state, tree
  obtain ⟨⟨⟨⟨⟨⟨hpos, hle⟩, hpar⟩, _⟩, _⟩, _⟩, _⟩ := h
  exact ⟨hpos, hle, hpar⟩

/-- `conformantB` is taken apart here and in `conformant_root`, nowhere else -/
theorem conformant_state {d : Doc} (h : conformantB d = true) {s : Nat} (hs : getState d s ≠ default) :
    StateOK d s := by
  obtain ⟨hmem, hpos, hle⟩ := getState_mem hs
  unfold conformantB at h
  simp only [Bool.and_eq_true, List.all_eq_true] at h
  obtain ⟨⟨⟨_, hids⟩, hall⟩, htree⟩ := h
  have hid : (getState d s).id = s := by
    have := hids (s - 1) (by simp; omega)
    rw [show getState d s = d.states.getD (s - 1) default by unfold getState; rw [if_neg (by omega)]]
    have : (d.states.getD (s - 1) default).id = s - 1 + 1 := by simpa using this
    omega
  have hst := hall _ hmem
  have htr := htree _ hmem
  rw [hid] at hst htr
  simp only [Bool.and_eq_true, Bool.or_eq_true, beq_iff_eq, decide_eq_true_eq] at hst htr
  -- per state: parent, kids, history, transitions, history-state clause, initial transition
  obtain ⟨⟨⟨⟨⟨hpar, _⟩, hhist⟩, _⟩, _⟩, hinit⟩ := hst
  refine ⟨?_, ?_, ?_, ?_⟩
  · refine hpar.imp id fun hp => ⟨hp.1.1.2, ?_⟩
    unfold isHistoryState parentOf; simpa using hp.1.2
  · intro x hx; exact (hhist x hx).1.2
  · intro hc
    simp only [Bool.or_eq_true, Bool.and_eq_true, beq_iff_eq] at hc
    rw [if_pos hc] at hinit
    simp only [Bool.and_eq_true, List.all_eq_true, bne_iff_ne, ne_eq, beq_iff_eq, Bool.not_eq_true',
      List.isEmpty_eq_false_iff] at hinit
    obtain ⟨⟨⟨⟨hne, _⟩, hsrc⟩, htgt⟩, hdesc⟩ := hinit
    exact ⟨hne, hsrc, htgt, fun t ht => (hdesc t ht).2⟩
  · exact htr.imp id (by simp)

theorem getState_ne_default_of_parent {d : Doc} {x : Nat} (hx : parentOf d x ≠ 0) : getState d x ≠ default :=
  fun e => hx (by unfold parentOf; rw [e]; rfl)

theorem conformant_noHistParent {d : Doc} (h : conformantB d = true) : NoHistParent d := by
  intro x hx
  rcases (conformant_state h (getState_ne_default_of_parent hx)).parent with rfl | hp
  · exact absurd (conformant_root h).2.2 hx
  · exact hp.2

end Rfsm.Interp
