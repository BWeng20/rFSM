import Rfsm.Proofs.ReaderLeaves
/-!
C04 (b), assembling: the decidable class of `supported` content satisfies `OkB`; a block read into an
empty region decompiles from it with the fuel `decompile` uses (`content_decompile`); the reader state
inside `<scxml><state id="s"><onentry>` is `Ready`.
-/
namespace Rfsm.Reader
open Rfsm.Descriptor (Str)

/-- decidable condition under which every leaf is read as one entry: `<log>` has `expr`,
`<cancel>` has exactly one of `sendid` / `sendidexpr`, `<assign>` not both `expr` and child text,
child text of `<script>` / `<assign>` is written without `&` and `<` (`plainText`: the SAX span is
the text itself; for escaped text see `resolve_escape`);
`<send>` is excluded (`LeafOK (.send s)` is not proved) -/
def supported : Content → Bool
  | .raise _ => true
  | .assign _ e t => (e.isNone || t.isNone) && !(e.isSome && t.isSome) &&
      (match t with
       | some t => plainText t
       | none => true)
  | .log _ e => e.isSome
  | .script t => plainText t
  | .send _ => false
  | .cancel i e => (i.isSome && e.isNone) || (i.isNone && e.isSome)
  | .ite _ b t => supportedB b && supportedT t
  | .foreach _ _ _ b => supportedB b
where
  supportedB : List Content → Bool
    | [] => true
    | c :: cs => supported c && supportedB cs
  supportedT : Tail → Bool
    | .none => true
    | .els b => supportedB b
    | .elif _ b t => supportedB b && supportedT t

mutual
theorem okC_of_supported : (c : Content) → supported c = true → OkC c
  | .raise e, _ => leaf_raise e
  | .assign l e t, h => by
    cases t with
    | none => exact leaf_assign_expr l e
    | some t =>
      cases e with
      | none => exact leaf_assign_text l t (by simpa [supported] using h)
      | some e => simp [supported] at h
  | .log l e, h => by
    cases e with
    | none => simp [supported] at h
    | some e => exact leaf_log l e
  | .script t, h => leaf_script t (by simpa [supported] using h)
  | .send s, h => by simp [supported] at h
  | .cancel i e, h => by
    cases i <;> cases e <;> simp [supported] at h
    · exact leaf_cancel_expr _
    · exact leaf_cancel_id _
  | .ite c b t, h => by
    simp only [supported, Bool.and_eq_true] at h
    exact ⟨okB_of_supported b h.1, okT_of_supported t h.2⟩
  | .foreach a i x b, h => okB_of_supported b (by simpa only [supported] using h)
theorem okB_of_supported : (b : List Content) → supported.supportedB b = true → OkB b
  | [], _ => trivial
  | c :: cs, h => by
    simp only [supported.supportedB, Bool.and_eq_true] at h
    exact ⟨okC_of_supported c h.1, okB_of_supported cs h.2⟩
theorem okT_of_supported : (t : Tail) → supported.supportedT t = true → OkT t
  | .none, _ => trivial
  | .els b, h => okB_of_supported b (by simpa only [supported.supportedT] using h)
  | .elif c b t, h => by
    simp only [supported.supportedT, Bool.and_eq_true] at h
    exact ⟨okB_of_supported b h.1, okT_of_supported t h.2⟩
end

/-- a block read into an empty region decompiles from that region to its normal form, with the fuel
`decompile` uses: the nesting depth is at most the number of ids allocated, and the last of them is a
key of the table -/
theorem content_decompile (b : Block) (σ : RS) (hR : Ready σ []) (hok : OkB b) :
    ∃ σ', run (saxB b) σ = .ok σ' ∧ dBlock (regionFuel σ'.fsm) σ'.fsm.regions σ.curEc = some (normB b) := by
  obtain ⟨g', n', s', new, hrun, hP, hD⟩ := content_block b σ [] hR hok
  refine ⟨σ.upd g' n' s', hrun, ?_⟩
  have hfuel : n' - σ.nextId ≤ maxKey g' + 1 := by
    by_cases hn : n' = σ.nextId
    · omega
    · have hle := hP.le
      have := le_maxKey (hP.alloc (n' - 1) (by omega) (by omega))
      omega
  show dBlock (maxKey g' + 1 + 1) g' σ.curEc = some (normB b)
  rw [dBlock, hP.reg]
  exact hD g' (maxKey g' + 1) (fun _ _ _ => rfl) hfuel

/-! ### a `Ready` state at the start of a document -/

/-- `<scxml><state id="s"><onentry>` -/
def preOnentry : List Sax := [.start t_scxml [], .start t_state [(a_id, [115])], .start t_onentry []]

/-- the reader state inside that `<onentry>` -/
def σ0 : RS := okState (run preOnentry {})

theorem σ0_run : run preOnentry {} = .ok σ0 := eq_ok_okState (by decide +kernel)

theorem σ0_facts : σ0.raw = none ∧ σ0.cur.tag = .onentry ∧ σ0.curEc = 1 ∧ σ0.nextId = 2 ∧
    σ0.fsm.regions = [(1, [])] ∧ (match curState σ0 with
      | .ok _ => true
      | .error _ => false) = true := by decide +kernel

theorem σ0_ready : Ready σ0 [] := by
  obtain ⟨h1, h2, h3, h4, h5, h6⟩ := σ0_facts
  refine ⟨h1, by rw [h2]; decide, by rw [h3]; decide, by rw [h3, h4]; decide, by rw [h5, h3]; decide, ?_, ?_⟩
  · intro id hid
    rw [h4] at hid
    rw [h5]
    simp [rget]; omega
  · cases h : curState σ0 with
    | ok s => exact ⟨s, rfl⟩
    | error e => rw [h] at h6; simp at h6

end Rfsm.Reader
