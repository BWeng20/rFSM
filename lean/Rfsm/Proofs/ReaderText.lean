import Rfsm.Model.ReaderSpec
/-!
C04, strings only: `trim` is idempotent (the code trims script text twice) and fixes a quoted string;
`resolveCharData` inverts `xmlEscape` for every text and is the identity on text without `&` and `<`;
`localName` strips a prefix without `:`.
-/
namespace Rfsm.Reader
open Rfsm.Descriptor (Str)

/-! ### `trim` -/

theorem dropWhile_head_false {α} (p : α → Bool) (x : α) (xs : List α) (h : p x = false) :
    (x :: xs).dropWhile p = x :: xs := by simp [List.dropWhile, h]

theorem trim_fixed (a b : Nat) (m : Str) (ha : isWs a = false) (hb : isWs b = false) :
    trim (a :: (m ++ [b])) = a :: (m ++ [b]) := by
  simp [trim, List.dropWhile, ha, hb]

theorem trim_nil : trim [] = [] := by simp [trim]

theorem dropWhile_idem {α} (p : α → Bool) (l : List α) : (l.dropWhile p).dropWhile p = l.dropWhile p := by
  induction l with
  | nil => simp
  | cons x xs ih =>
    by_cases h : p x
    · simp [List.dropWhile, h, ih]
    · simp [List.dropWhile, h]

theorem dropWhile_eq_self_of_head {α} (p : α → Bool) (l : List α) (h : ∀ x, l.head? = some x → p x = false) :
    l.dropWhile p = l := by
  cases l with
  | nil => rfl
  | cons x xs => simp [List.dropWhile, h x rfl]

theorem head_dropWhile {α} (p : α → Bool) (l : List α) :
    ∀ x, (l.dropWhile p).head? = some x → p x = false := by
  intro x hx
  have := List.head?_dropWhile_not p l
  rwa [hx] at this

theorem getLast_dropWhile {α} (p : α → Bool) (l : List α) :
    ∀ x, (l.dropWhile p).getLast? = some x → l.getLast? = some x := by
  intro x hx
  obtain ⟨t, ht⟩ := List.dropWhile_suffix (l := l) p
  rw [← ht, List.getLast?_append, hx]; rfl

theorem trim_idem (s : Str) : trim (trim s) = trim s := by
  unfold trim
  generalize hu : s.dropWhile isWs = u
  generalize hv : u.reverse.dropWhile isWs = v
  -- the first byte of `v.reverse` is the last of `v`, so of `u.reverse`: the first of `u`, which is no space
  have h1 : v.reverse.dropWhile isWs = v.reverse := by
    apply dropWhile_eq_self_of_head
    intro x hx
    rw [List.head?_reverse] at hx
    have := getLast_dropWhile isWs u.reverse x (hv ▸ hx)
    rw [List.getLast?_reverse] at this
    exact head_dropWhile isWs s x (hu ▸ this)
  rw [h1, List.reverse_reverse, ← hv, dropWhile_idem]

theorem quoted_trim (x : Str) : trim ([34] ++ x ++ [34]) = [34] ++ x ++ [34] := by
  have := trim_fixed 34 34 x (by decide) (by decide)
  simpa using this

/-! ### child text: `resolve_character_data` on escaped text, and on text without markup -/

/-- text without `&` and `<` (no references, no markup) -/
def plainText (t : Str) : Bool := t.all fun c => c != 38 && c != 60

theorem resolveAux_escape (t : Str) : ∀ f, (xmlEscape t).length < f → resolveAux f 0 (xmlEscape t) = some t := by
  induction t with
  | nil =>
    intro f hf
    cases f with
    | zero => simp at hf
    | succ f => simp [xmlEscape, resolveAux]
  | cons c cs ih =>
    intro f hf
    cases f with
    | zero => simp at hf
    | succ f =>
      by_cases h38 : c = 38
      · subst h38
        simp only [xmlEscape, if_true, List.cons_append, List.nil_append, List.length_cons] at hf ⊢
        have := ih f (by omega)
        simp [resolveAux, splitAtPat, List.isPrefixOf, decodeRef, this]
      · by_cases h60 : c = 60
        · subst h60
          simp only [xmlEscape, List.cons_append, List.nil_append] at hf ⊢
          have := ih f (by simp at hf; omega)
          simp [resolveAux, splitAtPat, List.isPrefixOf, decodeRef, this]
        · simp only [xmlEscape, h38, h60, if_false, List.length_cons] at hf ⊢
          have := ih f (by omega)
          simp [resolveAux, h38, h60, this]

theorem resolve_escape (t : Str) : resolveCharData (xmlEscape t) = some t :=
  resolveAux_escape t _ (by omega)

theorem resolve_nil : resolveCharData [] = some [] := by simp [resolveCharData, resolveAux]

theorem xmlEscape_plain (t : Str) (h : plainText t = true) : xmlEscape t = t := by
  induction t with
  | nil => rfl
  | cons c cs ih =>
    simp only [plainText, List.all_cons, Bool.and_eq_true, bne_iff_ne, ne_eq] at h
    simp [xmlEscape, h.1.1, h.1.2, ih (by simpa [plainText] using h.2)]

theorem resolve_plain (t : Str) (h : plainText t = true) : resolveCharData t = some t := by
  have := resolve_escape t
  rwa [xmlEscape_plain t h] at this

theorem localName_prefix (p n : Str) (hp : p.all (· != 58) = true) : localName (p ++ 58 :: n) = n := by
  unfold localName
  have : (p ++ 58 :: n).dropWhile (· ≠ 58) = 58 :: n := by
    induction p with
    | nil => simp
    | cons c cs ih =>
      simp only [List.all_cons, Bool.and_eq_true, bne_iff_ne, ne_eq] at hp
      have := ih hp.2
      simpa [List.dropWhile, hp.1] using this
  rw [this]

end Rfsm.Reader
