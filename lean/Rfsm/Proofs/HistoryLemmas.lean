import Rfsm.Proofs.StepLemmas
import Rfsm.Proofs.ConformantLemmas
/-! History (M-INT): the table after an exit (`exitStates_hv`) — in a conformant document a history
    pseudo-state has one owner, its parent, so each entry is the value recorded in this microstep for the
    exited owner or the old entry (`exitStates_hv_cases`) — and what targeting a history state puts into
    the entry set. -/
namespace Rfsm.Interp

variable {σ : Type}

theorem tget_tput (t : Table) (k k' : Nat) (v : List Nat) :
    tget (tput t k v) k' = if k' = k then some v else tget t k' := by
  unfold tget tput
  by_cases h : k' = k
  · simp [h]
  · rw [List.find?_cons_of_neg (by simpa using Ne.symm h), List.find?_filter, if_neg h]
    congr 2
    funext a
    by_cases a.1 = k' <;> simp_all

/-- writing a list of entries one after the other: the last write to a key wins, keys never
    written keep their entry -/
theorem tget_foldr_tput (hv : Table) : ∀ (r : Table) (k : Nat),
    tget (r.foldr (fun kv tbl => tput tbl kv.1 kv.2) hv) k = (tget r k).or (tget hv k)
  | [], k => by simp [tget]
  | a :: r, k => by
    rw [List.foldr_cons, tget_tput, tget_foldr_tput hv r k]
    by_cases h : k = a.1
    · simp [tget, h]
    · simp [tget, h, Ne.symm h]

theorem tget_eq_none {t : Table} {k : Nat} (h : ∀ kv ∈ t, kv.1 ≠ k) : tget t k = none := by
  simp only [tget, Option.map_eq_none_iff, List.find?_eq_none]
  intro kv hkv; simpa using h kv hkv

theorem tget_eq_some {t : Table} {k : Nat} {v : List Nat} (hm : (k, v) ∈ t)
    (hu : ∀ kv ∈ t, kv.1 = k → kv.2 = v) : tget t k = some v := by
  unfold tget
  cases hf : t.find? (·.1 == k) with
  | none => exact absurd (List.find?_eq_none.1 hf _ hm) (by simp)
  | some kv =>
    have := hu kv (List.mem_of_find?_eq_some hf) (by simpa using List.find?_some hf)
    simp [this]

/-- the entries `exitStates` records, in the order it writes them -/
def recorded (d : Doc) (cfg : List Nat) (l : List Nat) : Table :=
  l.flatMap (fun sid => (getState d sid).history.map (fun hid => (hid, histVal d cfg sid hid)))

theorem historyRecord_eq (d : Doc) (cfg l : List Nat) :
    historyRecord d cfg l = (recorded d cfg l).foldl (fun tbl kv => tput tbl kv.1 kv.2) [] := by
  simp [historyRecord, recorded, List.foldl_flatMap, List.foldl_map]

theorem exitStates_hv (env : Env σ) (d : Doc) (s : Sess σ) (ts : List Nat) (h : Nat) :
    tget (exitStates env d s ts).hv h =
      (tget (recorded d s.cfg (sortByDesc (docIdOf d) (computeExitSet d s.hv s.cfg ts))).reverse h).or
        (tget s.hv h) := by
  obtain ⟨o, he⟩ := exitStates_eq env d s ts
  rw [he]
  simp only [exitPrepare, tget_foldr_tput, historyRecord_eq, List.foldl_eq_foldr_reverse]
  simp [tget]

theorem exitStates_records (env : Env σ) (d : Doc) (s : Sess σ) (ts : List Nat) (sid h : Nat)
    (hs : sid ∈ computeExitSet d s.hv s.cfg ts) (hh : h ∈ (getState d sid).history)
    (hu : ∀ s2, h ∈ (getState d s2).history → s2 = sid) :
    tget (exitStates env d s ts).hv h = some (histVal d s.cfg sid h) := by
  rw [exitStates_hv, tget_eq_some (v := histVal d s.cfg sid h)]
  · rfl
  · simp only [recorded, List.mem_reverse, List.mem_flatMap, List.mem_map, mem_sortByDesc]
    exact ⟨sid, hs, h, hh, rfl⟩
  · simp only [recorded, List.mem_reverse, List.mem_flatMap, List.mem_map]
    rintro _ ⟨s2, _, h2, hh2, rfl⟩ rfl
    rw [hu s2 hh2]

theorem exitStates_keeps (env : Env σ) (d : Doc) (s : Sess σ) (ts : List Nat) (h : Nat)
    (hn : ∀ sid ∈ computeExitSet d s.hv s.cfg ts, h ∉ (getState d sid).history) :
    tget (exitStates env d s ts).hv h = tget s.hv h := by
  rw [exitStates_hv, tget_eq_none]
  · rfl
  · simp only [recorded, List.mem_reverse, List.mem_flatMap, List.mem_map, mem_sortByDesc]
    rintro _ ⟨s2, hs2, h2, hh2, rfl⟩ rfl
    exact hn s2 hs2 hh2

theorem history_owner {d : Doc} (hc : conformantB d = true) {sid h : Nat}
    (hh : h ∈ (getState d sid).history) : parentOf d h = sid :=
  (conformant_state hc fun e => by rw [e] at hh; cases hh).history h hh

theorem exitStates_hv_cases (env : Env σ) (d : Doc) (hc : conformantB d = true) (s : Sess σ)
    (ts : List Nat) (h : Nat) :
    (parentOf d h ∈ computeExitSet d s.hv s.cfg ts ∧ h ∈ (getState d (parentOf d h)).history ∧
      tget (exitStates env d s ts).hv h = some (histVal d s.cfg (parentOf d h) h)) ∨
    tget (exitStates env d s ts).hv h = tget s.hv h := by
  by_cases hex : ∃ sid ∈ computeExitSet d s.hv s.cfg ts, h ∈ (getState d sid).history
  · obtain ⟨sid, hs, hh⟩ := hex
    have ho := history_owner hc hh
    left
    subst ho
    refine ⟨hs, hh, exitStates_records env d s ts _ h hs hh ?_⟩
    intro s2 h2
    exact (history_owner hc h2).symm
  · right
    apply exitStates_keeps
    intro sid hs hh
    exact hex ⟨sid, hs, hh⟩

/-! ### `addDesc` on a history state -/

theorem addDesc_restore {d : Doc} (hv : Table) (f h : Nat) (acc : EntryAcc) (vs : List Nat)
    (hh : isHistoryState d h = true) (hval : tget hv h = some vs) :
    addDesc d hv (f + 1) h acc =
      vs.foldl (fun a s => addAnc d hv f s (getState d h).parent a)
        (vs.foldl (fun a s => addDesc d hv f s a) acc) := by
  conv => lhs; unfold addDesc
  simp only [hh, ↓reduceIte, hval]

theorem addDesc_atomic {d : Doc} (hv : Table) (f v : Nat) (acc : EntryAcc)
    (hn : isHistoryState d v = false) (hc : isCompoundState d v = false) (hp : isParallelState d v = false) :
    addDesc d hv (f + 1) v acc = { acc with toEnter := oadd acc.toEnter v } := by
  unfold addDesc
  simp only [hn, hc, hp, Bool.false_eq_true, ↓reduceIte]

theorem getProperAncestors_child {d : Doc} (v p : Nat) (hp : parentOf d v = p) :
    getProperAncestors d v p = [] := by
  unfold getProperAncestors
  split
  · by_cases h0 : p = 0
    · subst h0
      unfold ancestors
      rw [hp, ancestorsAux_zero]
      rfl
    · unfold ancestors fuelOf ancestorsAux
      rw [hp, if_neg h0]
      simp
  · rfl

theorem addAnc_child {d : Doc} (hv : Table) (f v p : Nat) (acc : EntryAcc) (hp : parentOf d v = p) :
    addAnc d hv f v p acc = acc := by
  cases f with
  | zero => simp [addAnc]
  | succ f =>
    unfold addAnc
    rw [getProperAncestors_child v p hp]
    rfl

/-- fuel `f + 2`: one level for the history state (`addDesc_restore`), and `addDesc_atomic` needs a
    successor for its members -/
theorem history_restores_exactly {d : Doc} (hv : Table) (f h : Nat) (acc : EntryAcc) (vs : List Nat)
    (hh : isHistoryState d h = true) (hval : tget hv h = some vs)
    (hvs : ∀ v ∈ vs, isHistoryState d v = false ∧ isCompoundState d v = false ∧
      isParallelState d v = false ∧ parentOf d v = (getState d h).parent) :
    ∀ x, x ∈ (addDesc d hv (f + 2) h acc).toEnter ↔ x ∈ acc.toEnter ∨ x ∈ vs := by
  intro x
  rw [addDesc_restore hv _ h acc vs hh hval,
    -- the stored states are children of the history state's parent: the ancestor pass adds nothing
    foldl_congr_mem (g := fun a _ => a) (fun a v hv' => addAnc_child hv _ v _ a (hvs v hv').2.2.2),
    foldl_fixed,
    foldl_congr_mem (g := fun a v => { a with toEnter := oadd a.toEnter v })
      (fun a v hv' => addDesc_atomic hv f v a (hvs v hv').1 (hvs v hv').2.1 (hvs v hv').2.2.1),
    foldl_union (m := fun (a : EntryAcc) x => x ∈ a.toEnter) (Q := fun v x => x = v) (fun _ _ _ => mem_oadd)]
  simp

end Rfsm.Interp
