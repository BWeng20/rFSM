import Rfsm.Proofs.HttpLemmas
/-!
The receiving route of C20.  The model's `routeEvent form` is the event a form yields; the route body
enqueues it if the session exists (`routeBody_eq`).
-/
namespace Rfsm.Http

/-! ### the session table -/

def queueOf (t : Table) (sid : Nat) : List Event :=
  match lookup t sid with
  | some s => s.queue
  | none => []

def totalQueued (t : Table) : Nat := (t.map (fun s => s.queue.length)).sum

def sidsOf (t : Table) : List Nat := t.map (·.sid)

def bump (sid : Nat) (e : Event) (s : Sess) : Sess :=
  if s.sid == sid then { s with queue := s.queue ++ [e] } else s

theorem enqueue_eq (t : Table) (sid : Nat) (e : Event) : enqueue t sid e = t.map (bump sid e) := rfl

theorem bump_sid (sid : Nat) (e : Event) (s : Sess) : (bump sid e s).sid = s.sid := by
  unfold bump; split <;> rfl

theorem bump_same (sid : Nat) (e : Event) (s : Sess) (h : s.sid = sid) :
    (bump sid e s).queue = s.queue ++ [e] := by
  unfold bump; simp [h]

theorem bump_other (sid : Nat) (e : Event) (s : Sess) (h : s.sid ≠ sid) : bump sid e s = s := by
  unfold bump; simp [h]

theorem lookup_nil (sid : Nat) : lookup [] sid = none := rfl

theorem lookup_cons (s : Sess) (t : Table) (sid : Nat) :
    lookup (s :: t) sid = if s.sid = sid then some s else lookup t sid := by
  by_cases h : s.sid = sid <;> simp [lookup, h]

theorem enqueue_sids (t : Table) (sid : Nat) (e : Event) : sidsOf (enqueue t sid e) = sidsOf t := by
  rw [sidsOf, enqueue_eq, List.map_map]
  exact List.map_congr_left fun s _ => bump_sid sid e s

theorem lookup_enqueue (t : Table) (sid sid' : Nat) (e : Event) :
    lookup (enqueue t sid e) sid' = (lookup t sid').map (bump sid e) := by
  induction t with
  | nil => rfl
  | cons s t ih =>
    rw [enqueue_eq, List.map_cons, lookup_cons, lookup_cons, bump_sid, ← enqueue_eq, ih]
    split <;> rfl

theorem lookup_sid (t : Table) (sid : Nat) (s : Sess) (h : lookup t sid = some s) : s.sid = sid := by
  have := List.find?_some h
  simpa using this

theorem queueOf_enqueue_same (t : Table) (sid : Nat) (e : Event) (h : (lookup t sid).isSome = true) :
    queueOf (enqueue t sid e) sid = queueOf t sid ++ [e] := by
  obtain ⟨s, hs⟩ := Option.isSome_iff_exists.1 h
  simp only [queueOf, lookup_enqueue, hs, Option.map_some]
  exact bump_same sid e s (lookup_sid t sid s hs)

theorem queueOf_enqueue_other (t : Table) (sid sid' : Nat) (e : Event) (hne : sid' ≠ sid) :
    queueOf (enqueue t sid e) sid' = queueOf t sid' := by
  simp only [queueOf, lookup_enqueue]
  cases h : lookup t sid' with
  | none => rfl
  | some s =>
    have hs := lookup_sid t sid' s h
    have : s.sid ≠ sid := by rw [hs]; exact hne
    simp only [Option.map_some, bump_other sid e s this]

theorem totalQueued_cons (s : Sess) (t : Table) : totalQueued (s :: t) = s.queue.length + totalQueued t := by
  simp [totalQueued]

theorem sidsOf_cons (s : Sess) (t : Table) : sidsOf (s :: t) = s.sid :: sidsOf t := rfl

theorem totalQueued_enqueue_count (t : Table) (sid : Nat) (e : Event) :
    totalQueued (enqueue t sid e) = totalQueued t + (sidsOf t).count sid := by
  induction t with
  | nil => rfl
  | cons s t ih =>
    rw [enqueue_eq, List.map_cons, ← enqueue_eq, totalQueued_cons, totalQueued_cons, ih, sidsOf_cons,
      List.count_cons]
    by_cases hs : s.sid = sid
    · rw [bump_same sid e s hs]; simp [hs]; omega
    · rw [bump_other sid e s hs]; simp [hs]; omega

theorem totalQueued_enqueue (t : Table) (sid : Nat) (e : Event) (hn : (sidsOf t).Nodup)
    (h : sid ∈ sidsOf t) : totalQueued (enqueue t sid e) = totalQueued t + 1 := by
  have h1 := List.nodup_iff_count.1 hn sid
  have h2 := List.count_pos_iff.2 h
  rw [totalQueued_enqueue_count]; omega

theorem lookup_isSome_iff (t : Table) (sid : Nat) : (lookup t sid).isSome ↔ sid ∈ sidsOf t := by
  simp [lookup, sidsOf, List.find?_isSome]

/-! ### pairwise distinct names -/

theorem keysDistinct_cons (p : Bytes × Bytes) (ps : List (Bytes × Bytes)) :
    keysDistinct (p :: ps) = true ↔ ps.any (fun q => q.1 == p.1) = false ∧ keysDistinct ps = true := by
  simp [keysDistinct]

theorem keysDistinct_iff (l : List (Bytes × Bytes)) :
    keysDistinct l = true ↔ (l.map (·.1)).Nodup := by
  induction l with
  | nil => simp [keysDistinct]
  | cons p l ih =>
    have : l.any (fun q => q.1 == p.1) = false ↔ p.1 ∉ l.map (·.1) := by
      simp only [List.any_eq_false, beq_iff_eq, List.mem_map, not_exists, not_and]
    rw [keysDistinct_cons, ih, List.map_cons, List.nodup_cons, this]

theorem keysDistinct_otherFields (l : List (Bytes × Bytes)) (h : keysDistinct l = true) :
    keysDistinct (otherFields l) = true := by
  rw [keysDistinct_iff] at h ⊢
  exact h.sublist (List.Sublist.map _ List.filter_sublist)

/-! ### the route's loop -/

/-- the value of the last field named `k`: the tail stands first in `.or`, so the last one wins -/
def lastValue : List (Bytes × Bytes) → Bytes → Option Bytes
  | [], _ => none
  | p :: l, k => (lastValue l k).or (if p.1 == k then some p.2 else none)

theorem otherFields_cons_other (p : Bytes × Bytes) (l : List (Bytes × Bytes))
    (h1 : (p.1 == scxmlEventName) = false) (h2 : (p.1 == scxmlContent) = false) :
    otherFields (p :: l) = p :: otherFields l := by
  simp [otherFields, bne, h1, h2]

theorem otherFields_cons_name (p : Bytes × Bytes) (l : List (Bytes × Bytes))
    (h1 : (p.1 == scxmlEventName) = true) : otherFields (p :: l) = otherFields l := by
  simp [otherFields, bne, h1]

theorem otherFields_cons_content (p : Bytes × Bytes) (l : List (Bytes × Bytes))
    (h2 : (p.1 == scxmlContent) = true) : otherFields (p :: l) = otherFields l := by
  simp [otherFields, bne, h2]

/-- the fold of `buildEvent` (its function word for word), from any accumulator -/
theorem buildEvent_aux (l : List (Bytes × Bytes)) (n0 : Option Bytes) (e0 : Event) :
    l.foldl (fun (acc : Option Bytes × Event) nv =>
      if nv.1 == scxmlEventName then (some nv.2, acc.2)
      else if nv.1 == scxmlContent then (acc.1, { acc.2 with content := some nv.2 })
      else (acc.1, { acc.2 with params := some ((acc.2.params.getD []) ++ [nv]) })) (n0, e0)
    = ((lastValue l scxmlEventName).or n0,
       { name := e0.name,
         params := if (otherFields l).isEmpty then e0.params else some (e0.params.getD [] ++ otherFields l),
         content := (lastValue l scxmlContent).or e0.content }) := by
  induction l generalizing n0 e0 with
  | nil => simp [lastValue, otherFields]
  | cons p l ih =>
    rw [List.foldl_cons, lastValue, lastValue, Option.or_assoc, Option.or_assoc]
    by_cases h1 : (p.1 == scxmlEventName) = true
    · have hne : (p.1 == scxmlContent) = false := by
        rw [show p.1 = scxmlEventName by simpa using h1]; decide
      rw [if_pos h1, ih, otherFields_cons_name p l h1, if_pos h1, hne]
      rfl
    · have h1' : (p.1 == scxmlEventName) = false := by simpa using h1
      rw [if_neg h1, h1']
      by_cases h2 : (p.1 == scxmlContent) = true
      · rw [if_pos h2, ih, otherFields_cons_content p l h2, if_pos h2]
        rfl
      · have h2' : (p.1 == scxmlContent) = false := by simpa using h2
        rw [if_neg h2, ih, otherFields_cons_other p l h1' h2', h2']
        cases e0.params <;> simp

theorem buildEvent_eq (form : List (Bytes × Bytes)) :
    buildEvent form = (lastValue form scxmlEventName,
      { name := [],
        params := if (otherFields form).isEmpty then none else some (otherFields form),
        content := lastValue form scxmlContent }) := by
  unfold buildEvent
  rw [buildEvent_aux]
  simp

theorem fieldValue_cons (p : Bytes × Bytes) (l : List (Bytes × Bytes)) (k : Bytes) :
    fieldValue (p :: l) k = if p.1 == k then some p.2 else fieldValue l k := by
  by_cases h : p.1 = k <;> simp [fieldValue, h]

theorem fieldValue_none_of_absent (l : List (Bytes × Bytes)) (k : Bytes)
    (h : l.any (fun q => q.1 == k) = false) : fieldValue l k = none := by
  induction l with
  | nil => rfl
  | cons p l ih =>
    rw [List.any_cons, Bool.or_eq_false_iff] at h
    rw [fieldValue_cons, h.1, ih h.2]
    rfl

theorem lastValue_distinct (form : List (Bytes × Bytes)) (k : Bytes) (h : keysDistinct form = true) :
    lastValue form k = fieldValue form k := by
  induction form with
  | nil => rfl
  | cons p l ih =>
    obtain ⟨h1, h2⟩ := (keysDistinct_cons p l).1 h
    rw [fieldValue_cons, lastValue, ih h2]
    by_cases hk : (p.1 == k) = true
    · rw [if_pos hk, if_pos hk, fieldValue_none_of_absent l k (beq_iff_eq.1 hk ▸ h1)]; rfl
    · rw [if_neg hk, if_neg hk, Option.or_none]

/-! ### `set_event`'s map (`mapOf`) on pairwise distinct names -/

theorem insertKV_fresh (acc : List (Bytes × Bytes)) (k v : Bytes)
    (h : acc.any (fun p => p.1 == k) = false) : insertKV acc k v = acc ++ [(k, v)] := by
  simp [insertKV, h]

theorem foldl_insert_distinct (fields acc : List (Bytes × Bytes)) (hd : keysDistinct fields = true)
    (hfresh : ∀ p ∈ fields, acc.any (fun q => q.1 == p.1) = false) :
    fields.foldl (fun acc p => insertKV acc p.1 p.2) acc = acc ++ fields := by
  induction fields generalizing acc with
  | nil => simp
  | cons p l ih =>
    obtain ⟨h1, h2⟩ := (keysDistinct_cons p l).1 hd
    rw [List.foldl_cons, insertKV_fresh acc p.1 p.2 (hfresh p (List.mem_cons_self ..)), ih _ h2,
      List.append_assoc, List.singleton_append]
    intro q hq
    have : (p.1 == q.1) = false := by rw [BEq.comm]; simpa using List.any_eq_false.1 h1 q hq
    simp [hfresh q (List.mem_cons_of_mem _ hq), this]

theorem mapOf_distinct (pv : List (Bytes × Bytes)) (hd : keysDistinct pv = true) : mapOf pv = pv := by
  unfold mapOf
  rw [foldl_insert_distinct pv [] hd (by intro p _; rfl)]
  simp

/-! ### the route -/

theorem routeBody_eq (t : Table) (sid : Nat) (form : List (Bytes × Bytes)) :
    routeBody t sid form =
      match lookup t sid, routeEvent form with
      | some _, some ev => (200, enqueue t sid ev)
      | _, _ => (400, t) := by
  unfold routeBody routeEvent
  cases lookup t sid with
  | none => rfl
  | some s => cases buildEvent form with | mk n ev => cases n <;> rfl

/-- for every form, duplicate names included -/
theorem routeEvent_eq (form : List (Bytes × Bytes)) :
    routeEvent form = (lastValue form scxmlEventName).map fun n =>
      { name := n,
        params := if (otherFields form).isEmpty then none else some (otherFields form),
        content := lastValue form scxmlContent } := by
  unfold routeEvent
  rw [buildEvent_eq]
  cases lastValue form scxmlEventName <;> rfl

theorem routeEvent_spec (form : List (Bytes × Bytes)) (hd : keysDistinct form = true) :
    (routeEvent form).map (fun ev => (ev.name, eventData ev)) = specEvent form := by
  rw [routeEvent_eq, lastValue_distinct form _ hd, lastValue_distinct form _ hd]
  unfold specEvent
  cases fieldValue form scxmlEventName with
  | none => rfl
  | some n =>
    simp only [Option.map_some, eventData]
    cases (otherFields form).isEmpty with
    | true => cases fieldValue form scxmlContent <;> rfl
    | false => simp [mapOf_distinct _ (keysDistinct_otherFields form hd)]

/-! ### requests -/

/-- the event a request contributes, which depends on the table only through its session ids -/
def eventOf (t : Table) (r : Bytes × Bytes) : Option (Nat × Event) :=
  match parseSid (pctDecode r.1) with
  | none => none
  | some sid =>
    if (lookup t sid).isSome then (routeEvent (formDecode r.2)).map (fun ev => (sid, ev))
    else none

theorem receive_eventOf (t : Table) (r : Bytes × Bytes) :
    (receive t r.1 r.2).2 =
      match eventOf t r with
      | some (sid, ev) => enqueue t sid ev
      | none => t := by
  unfold receive eventOf handlePost
  cases parseSid (pctDecode r.1) with
  | none => rfl
  | some sid =>
    simp only
    rw [routeBody_eq]
    cases lookup t sid <;> cases routeEvent (formDecode r.2) <;> rfl

theorem eventOf_some {t : Table} {r : Bytes × Bytes} {sid : Nat} {ev : Event}
    (h : eventOf t r = some (sid, ev)) : (lookup t sid).isSome = true := by
  unfold eventOf at h
  split at h
  · cases h
  · split at h
    · obtain ⟨_, _, h⟩ := Option.map_eq_some_iff.1 h
      cases h; assumption
    · cases h

theorem eventOf_congr (t t' : Table) (h : sidsOf t = sidsOf t') (r : Bytes × Bytes) :
    eventOf t r = eventOf t' r := by
  unfold eventOf
  cases parseSid (pctDecode r.1) with
  | none => rfl
  | some sid =>
    have : (lookup t sid).isSome = (lookup t' sid).isSome := by
      rw [Bool.eq_iff_iff, lookup_isSome_iff, lookup_isSome_iff, h]
    simp only [this]

theorem otherFields_append (a b : List (Bytes × Bytes)) :
    otherFields (a ++ b) = otherFields a ++ otherFields b := by
  simp [otherFields]

theorem fieldValue_append_absent (a b : List (Bytes × Bytes)) (k : Bytes) (h : ∀ q ∈ a, q.1 ≠ k) :
    fieldValue (a ++ b) k = fieldValue b k := by
  induction a with
  | nil => rfl
  | cons p a ih =>
    rw [List.cons_append, fieldValue_cons, if_neg (by simpa using h p (List.mem_cons_self ..)),
      ih fun q hq => h q (List.mem_cons_of_mem _ hq)]

theorem specEvent_sent (n : Bytes) (ps : List (Bytes × Bytes)) (c : Option Bytes)
    (hps : ∀ q ∈ ps, q.1 ≠ scxmlEventName ∧ q.1 ≠ scxmlContent) :
    specEvent ((scxmlEventName, n) :: (ps ++ (c.map fun x => (scxmlContent, x)).toList)) =
      some (n, if ps.isEmpty then (match c with | some x => .text x | none => .null) else .map ps) := by
  have hother :
      otherFields ((scxmlEventName, n) :: (ps ++ (c.map fun x => (scxmlContent, x)).toList)) = ps := by
    rw [otherFields_cons_name _ _ (beq_self_eq_true _), otherFields_append,
      show otherFields ps = ps from List.filter_eq_self.2 fun q hq => by simp [hps q hq]]
    cases c <;> simp [otherFields]
  have hcont :
      fieldValue ((scxmlEventName, n) :: (ps ++ (c.map fun x => (scxmlContent, x)).toList)) scxmlContent = c := by
    rw [fieldValue_cons, if_neg (show ¬ (scxmlEventName == scxmlContent) = true by decide),
      fieldValue_append_absent _ _ _ fun q hq => (hps q hq).2]
    cases c <;> simp [fieldValue]
  unfold specEvent
  rw [fieldValue_cons, if_pos (beq_self_eq_true _), hother, hcont]
  rfl

/-! ### the path segment: `u32::from_str (n.to_string()) = n` -/

theorem digit_facts : ∀ d, d < 10 →
    ((48 : UInt8) ≤ digitChar d && digitChar d ≤ 57 && (digitChar d).toNat - 48 == d) = true := by decide

theorem digitsVal_cons_digit (d : Nat) (hd : d < 10) (cs : Bytes) :
    digitsVal (digitChar d :: cs) = (digitsVal cs).map (fun r => d * 10 ^ cs.length + r) := by
  have h := digit_facts d hd
  simp only [Bool.and_eq_true, beq_iff_eq] at h
  simp only [digitsVal, h.1.1, h.1.2, Bool.and_self, ↓reduceIte, h.2]

theorem digitsVal_decimalAux (fuel n : Nat) (acc : Bytes) (h : n < fuel) :
    digitsVal (decimalAux fuel n acc) = (digitsVal acc).map (fun r => n * 10 ^ acc.length + r) := by
  induction fuel generalizing n acc with
  | zero => omega
  | succ fuel ih =>
    unfold decimalAux
    by_cases h10 : n < 10
    · rw [if_pos h10]
      exact digitsVal_cons_digit n h10 acc
    · rw [if_neg h10, ih (n / 10) _ (by omega), digitsVal_cons_digit (n % 10) (Nat.mod_lt n (by omega)) acc,
        Option.map_map]
      congr 1
      funext r
      -- `n = n / 10 * 10 + n % 10`
      simp only [Function.comp, List.length_cons]
      rw [Nat.pow_succ, Nat.mul_comm _ 10, ← Nat.mul_assoc, ← Nat.add_assoc, ← Nat.add_mul, Nat.div_add_mod']

theorem digitsVal_decimal (n : Nat) : digitsVal (decimal n) = some n := by
  unfold decimal
  rw [digitsVal_decimalAux (n + 1) n [] (by omega)]
  simp [digitsVal]

theorem decimalAux_ne_nil (fuel n : Nat) (acc : Bytes) (h : acc ≠ [] ∨ 0 < fuel) :
    decimalAux fuel n acc ≠ [] := by
  induction fuel generalizing n acc with
  | zero =>
    rcases h with h | h
    · exact h
    · omega
  | succ fuel ih =>
    unfold decimalAux
    by_cases h10 : n < 10
    · simp [h10]
    · simp only [h10, ↓reduceIte]
      exact ih _ _ (Or.inl (by simp))

theorem digitsVal_some (s : Bytes) (v : Nat) (h : digitsVal s = some v) : ∀ c ∈ s, c ≠ 37 ∧ c ≠ 43 := by
  induction s generalizing v with
  | nil => exact fun _ hc => nomatch hc
  | cons a s ih =>
    unfold digitsVal at h
    split at h
    · rename_i ha
      obtain ⟨r, hr, _⟩ := Option.map_eq_some_iff.1 h
      intro c hc
      rcases List.mem_cons.1 hc with rfl | hc
      · constructor <;> (rintro rfl; exact absurd ha (by decide))
      · exact ih r hr c hc
    · cases h

theorem pctDecode_noPct (s : Bytes) (h : ∀ c ∈ s, c ≠ 37) : pctDecode s = s := by
  induction s with
  | nil => rfl
  | cons c s ih =>
    rw [pctDecode_cons_ne c s (h c (List.mem_cons_self ..)), ih fun x hx => h x (List.mem_cons_of_mem _ hx)]

theorem parseSid_of_digitsVal (s : Bytes) (n : Nat) (hne : s ≠ []) (h : digitsVal s = some n) (hn : n < 4294967296) :
    parseSid s = some n := by
  cases s with
  | nil => exact absurd rfl hne
  | cons c cs =>
    have hc43 : c ≠ 43 := (digitsVal_some _ n h c (List.mem_cons_self ..)).2
    have hds : stripPlus (c :: cs) = c :: cs := by
      unfold stripPlus
      split
      · rename_i r heq; cases heq; exact absurd rfl hc43
      · rfl
    unfold parseSid
    simp only [hds, List.isEmpty_cons, Bool.false_eq_true, ↓reduceIte, h, hn]

theorem parseSid_decimal (n : Nat) (h : n < 4294967296) : parseSid (pctDecode (decimal n)) = some n := by
  have hd := digitsVal_decimal n
  rw [pctDecode_noPct _ fun c hc => (digitsVal_some _ n hd c hc).1]
  exact parseSid_of_digitsVal _ n (decimalAux_ne_nil _ _ [] (Or.inr (by omega))) hd h

end Rfsm.Http
