import Rfsm.Proofs.SessLemmas
/-!
What the operations of a microstep do to a session (M-INT).  Content blocks only absorb
(`Absorbs`); cancelling the invocations of a state has a closed form, `enterFinal` one by cases;
exit, entry and the microstep are each an absorbing step plus an explicit update of the control
part and the registry of children (`exitStates_eq`, `enterStates_eq`, `microstep_eq`).
-/
namespace Rfsm.Interp

variable {σ : Type}

theorem runContent_absorbs (env : Env σ) (s : Sess σ) (c : Nat) : Absorbs s (runContent env s c) := by
  unfold runContent
  simp only
  split
  · exact absorbs_emit _ _
  · exact (absorbs_emit s _).trans (absorbs_absorb _ _)

theorem executeTransitionContent_absorbs (env : Env σ) (d : Doc) (s : Sess σ) (ts : List Nat) :
    Absorbs s (executeTransitionContent env d s ts) := by
  refine Absorbs.foldl (fun s t => ?_) ts s
  simp only
  split
  · exact runContent_absorbs env s _
  · exact Absorbs.refl s

/-! ### the registry of children: closed forms -/

theorem foldl_cancelOne_eq : ∀ (hit : List Child) (s : Sess σ),
    hit.foldl cancelOne s =
      { s with children := s.children.filter (fun c => !hit.contains c),
               trace := s.trace ++ hit.map (fun c => Obs.cancelInvoke c.invokeId) }
  | [], s => by simp [List.filter_eq_self.2]
  | c :: l, s => by
    rw [List.foldl_cons, foldl_cancelOne_eq l]
    simp only [cancelOne, List.filter_filter, List.map_cons, List.append_assoc, List.singleton_append]
    congr 1
    apply List.filter_congr
    intro x _
    rw [List.contains_cons]
    simp only [bne]
    cases (x == c) <;> cases (l.contains x) <;> rfl

theorem cancelChildren_eq (d : Doc) (s : Sess σ) (sid : Nat) :
    cancelChildren d s sid =
      { s with
        children := s.children.filter (fun c => !((getState d sid).invokes.map (·.docId)).contains c.invDoc),
        trace := s.trace ++
          (s.children.filter (fun c => ((getState d sid).invokes.map (·.docId)).contains c.invDoc)).map
            (fun c => Obs.cancelInvoke c.invokeId) } := by
  unfold cancelChildren
  simp only
  rw [foldl_cancelOne_eq]
  congr 1
  apply List.filter_congr
  intro x hx
  -- a registered child is among those hit iff its `<invoke>` belongs to `sid`
  congr 1
  apply Bool.eq_iff_iff.2
  rw [List.contains_iff_mem, List.mem_filter]
  exact ⟨fun h => h.2, fun h => ⟨hx, h⟩⟩

/-! ### exit, entry, microstep

Each operation is given by one equation `∃ o …, op s = { s.absorb o with … }`: the fields after `with`
are explicit (`entered`, `running` only quantified), every other field is that of `s.absorb o`; all is
read off after `obtain ⟨o, …, h⟩ := …; rw [h]`.  The proofs end in `rw [… ← ho]; rfl`: `ho` folds the
absorbed outputs into one, the `rfl` is structure eta.  In `exitOne_eq` the witness `t` of
`⟨_, cancelChildren_eq d _ sid⟩` is found by unifying after `Sess.emit`, a record update of `trace`, is unfolded. -/

theorem exitOne_eq (env : Env σ) (d : Doc) (s : Sess σ) (sid : Nat) :
    ∃ o, exitOne env d s sid =
      { s.absorb o with
        cfg := odel s.cfg sid,
        children := s.children.filter (fun c => !((getState d sid).invokes.map (·.docId)).contains c.invDoc) } := by
  obtain ⟨t, h1⟩ : ∃ t, cancelChildren d (s.emit [.exit sid]) sid = { (s.emit [.exit sid]).emit t with
      children := s.children.filter (fun c => !((getState d sid).invokes.map (·.docId)).contains c.invDoc) } :=
    ⟨_, cancelChildren_eq d _ sid⟩
  obtain ⟨o2, h2⟩ := Absorbs.foldl (runContent_absorbs env) (getState d sid).onexit
    (cancelChildren d (s.emit [.exit sid]) sid)
  obtain ⟨o, ho⟩ := ((absorbs_emit s [.exit sid]).trans (absorbs_emit _ t)).trans (absorbs_absorb _ o2)
  refine ⟨o, ?_⟩
  unfold exitOne
  simp only
  rw [h2, h1, ← ho]
  rfl

theorem foldl_exitOne_eq (env : Env σ) (d : Doc) (l : List Nat) (s : Sess σ) :
    ∃ o, l.foldl (exitOne env d) s =
      { s.absorb o with
        cfg := l.foldl odel s.cfg,
        children := s.children.filter (fun c =>
          l.all fun sid => !((getState d sid).invokes.map (·.docId)).contains c.invDoc) } := by
  induction l generalizing s with
  | nil => obtain ⟨o, ho⟩ := Absorbs.refl s; exact ⟨o, by rw [← ho]; simp [List.filter_eq_self.2]⟩
  | cons a l ih =>
    obtain ⟨o1, h1⟩ := exitOne_eq env d s a
    obtain ⟨o2, h2⟩ := ih (exitOne env d s a)
    obtain ⟨o, ho⟩ := (absorbs_absorb s o1).trans (absorbs_absorb _ o2)
    refine ⟨o, ?_⟩
    rw [List.foldl_cons, h2, h1, ← ho]
    simp only [List.filter_filter, List.all_cons, Bool.and_comm]
    rfl

theorem exitStates_eq (env : Env σ) (d : Doc) (s : Sess σ) (ts : List Nat) :
    ∃ o, exitStates env d s ts =
      { s.absorb o with
        cfg := (sortByDesc (docIdOf d) (computeExitSet d s.hv s.cfg ts)).foldl odel s.cfg,
        toInvoke := (computeExitSet d s.hv s.cfg ts).foldl odel s.toInvoke,
        hv := (exitPrepare d s ts).hv,
        children := s.children.filter (fun c =>
          (sortByDesc (docIdOf d) (computeExitSet d s.hv s.cfg ts)).all fun sid =>
            !((getState d sid).invokes.map (·.docId)).contains c.invDoc) } :=
  foldl_exitOne_eq env d _ (exitPrepare d s ts)

theorem mem_exitStates_cfg {env : Env σ} {d : Doc} {s : Sess σ} {ts : List Nat} {x : Nat} :
    x ∈ (exitStates env d s ts).cfg ↔ x ∈ s.cfg ∧ x ∉ computeExitSet d s.hv s.cfg ts := by
  obtain ⟨o, h⟩ := exitStates_eq env d s ts
  rw [h]
  simp only [mem_foldl_odel, mem_sortByDesc]

theorem enterAdd_cfg (s : Sess σ) (sid : Nat) :
    (enterAdd s sid).cfg = oadd s.cfg sid ∧ (enterAdd s sid).hv = s.hv ∧
    (enterAdd s sid).running = s.running ∧ (enterAdd s sid).entered = s.entered := ⟨rfl, rfl, rfl, rfl⟩

theorem enterInit_eq (env : Env σ) (d : Doc) (s : Sess σ) (sid : Nat) :
    ∃ o e, enterInit env d s sid = { s.absorb o with entered := e } := by
  unfold enterInit
  split
  · exact ⟨_, _, rfl⟩
  · obtain ⟨o, ho⟩ := Absorbs.refl s; exact ⟨o, s.entered, by rw [← ho]⟩

theorem enterFinal_eq (env : Env σ) (d : Doc) (s : Sess σ) (sid : Nat) :
    enterFinal env d s sid =
      if isFinalStateId d sid then
        if (getState d sid).parent == d.root then { s with running := false }
        else
          let p := (getState d sid).parent
          let gp := (getState d p).parent
          let o := env.doneData s.dm s.cfg sid
          let e1 : Event := { name := doneStatePrefix ++ (getState d p).name, data := o.2 }
          let e2 : Event := { name := doneStatePrefix ++ (getState d gp).name }
          let both := isParallelState d gp && (getState d gp).kids.all (isInFinalState d s.cfg)
          (s.absorb o.1).absorb
            { dm := o.1.dm, raised := e1 :: (if both then [e2] else []),
              obs := .isend e1.name :: (if both then [.isend e2.name] else []) }
      else s := by
  unfold enterFinal
  simp only
  split
  · split
    · rfl
    · have hcfg : ∀ o : ExecOut σ, (s.absorb o).cfg = s.cfg := fun _ => rfl
      simp only [hcfg]
      split <;> simp [Sess.absorb, *]
  · rfl

theorem enterOne_eq (env : Env σ) (d : Doc) (acc : EntryAcc) (s : Sess σ) (sid : Nat) :
    ∃ o e r, enterOne env d acc s sid =
      { s.absorb o with
        cfg := oadd s.cfg sid, toInvoke := oadd s.toInvoke sid, entered := e, running := r } := by
  have final : ∀ s0 : Sess σ, ∃ o r, enterFinal env d s0 sid = { s0.absorb o with running := r } := by
    intro s0
    have key : ∀ {s1 : Sess σ}, Absorbs s0 s1 → ∀ r,
        ∃ o r', { s1 with running := r } = { s0.absorb o with running := r' } := by
      rintro _ ⟨o, rfl⟩ r; exact ⟨o, r, rfl⟩
    rw [enterFinal_eq]
    split
    · split
      · exact key (.refl s0) false
      · exact key ((absorbs_absorb s0 _).trans (absorbs_absorb _ _)) s0.running
    · exact key (.refl s0) s0.running
  obtain ⟨o1, e, h1⟩ := enterInit_eq env d (enterAdd s sid) sid
  obtain ⟨o2, h2⟩ := Absorbs.foldl (runContent_absorbs env) (entryContent d acc sid)
    (enterInit env d (enterAdd s sid) sid)
  obtain ⟨o3, r, h3⟩ := final
    ((entryContent d acc sid).foldl (runContent env) (enterInit env d (enterAdd s sid) sid))
  obtain ⟨o, ho⟩ := (((absorbs_emit s [.enter sid]).trans (absorbs_absorb _ o1)).trans
    (absorbs_absorb _ o2)).trans (absorbs_absorb _ o3)
  refine ⟨o, e, r, ?_⟩
  unfold enterOne
  rw [h3, h2, h1, ← ho]
  rfl

theorem foldl_enterOne_eq (env : Env σ) (d : Doc) (acc : EntryAcc) (l : List Nat) (s : Sess σ) :
    ∃ o e r, l.foldl (enterOne env d acc) s =
      { s.absorb o with cfg := l.foldl oadd s.cfg, toInvoke := l.foldl oadd s.toInvoke,
                        entered := e, running := r } := by
  induction l generalizing s with
  | nil => obtain ⟨o, ho⟩ := Absorbs.refl s; exact ⟨o, s.entered, s.running, by rw [← ho]; rfl⟩
  | cons a l ih =>
    obtain ⟨o1, e1, r1, h1⟩ := enterOne_eq env d acc s a
    obtain ⟨o2, e2, r2, h2⟩ := ih (enterOne env d acc s a)
    obtain ⟨o, ho⟩ := (absorbs_absorb s o1).trans (absorbs_absorb _ o2)
    refine ⟨o, e2, r2, ?_⟩
    rw [List.foldl_cons, h2, h1, ← ho]
    rfl

theorem enterStates_eq (env : Env σ) (d : Doc) (s : Sess σ) (ts : List Nat) :
    ∃ o e r, enterStates env d s ts =
      { s.absorb o with
        cfg := (sortBy (docIdOf d) (computeEntrySet d s.hv ts).toEnter).foldl oadd s.cfg,
        toInvoke := (sortBy (docIdOf d) (computeEntrySet d s.hv ts).toEnter).foldl oadd s.toInvoke,
        entered := e, running := r } :=
  foldl_enterOne_eq env d _ _ s

theorem mem_enterStates_cfg {env : Env σ} {d : Doc} {s : Sess σ} {ts : List Nat} {x : Nat} :
    x ∈ (enterStates env d s ts).cfg ↔ x ∈ s.cfg ∨ x ∈ (computeEntrySet d s.hv ts).toEnter := by
  obtain ⟨o, e, r, h⟩ := enterStates_eq env d s ts
  rw [h]
  simp only [mem_foldl_oadd, mem_sortBy]

theorem enterStates_hv (env : Env σ) (d : Doc) (s : Sess σ) (ts : List Nat) :
    (enterStates env d s ts).hv = s.hv := by
  obtain ⟨o, e, r, h⟩ := enterStates_eq env d s ts
  rw [h]
  rfl

/-- not closed in `hv`: `(exitStates env d s ts).hv`, the table the exit phase has just written and the
    entry set is computed with, is `(exitPrepare d s ts).hv` by `exitStates_eq` -/
theorem microstep_eq (env : Env σ) (d : Doc) (s : Sess σ) (ts : List Nat) :
    ∃ o e r, microstep env d s ts =
      { s.absorb o with
        cfg := (sortBy (docIdOf d) (computeEntrySet d (exitStates env d s ts).hv ts).toEnter).foldl oadd
                ((sortByDesc (docIdOf d) (computeExitSet d s.hv s.cfg ts)).foldl odel s.cfg),
        toInvoke := (sortBy (docIdOf d) (computeEntrySet d (exitStates env d s ts).hv ts).toEnter).foldl oadd
                ((computeExitSet d s.hv s.cfg ts).foldl odel s.toInvoke),
        hv := (exitStates env d s ts).hv,
        children := s.children.filter (fun c =>
          (sortByDesc (docIdOf d) (computeExitSet d s.hv s.cfg ts)).all fun sid =>
            !((getState d sid).invokes.map (·.docId)).contains c.invDoc),
        entered := e, running := r } := by
  obtain ⟨o3, e, r, h3⟩ := enterStates_eq env d (executeTransitionContent env d (exitStates env d s ts) ts) ts
  obtain ⟨o2, h2⟩ := executeTransitionContent_absorbs env d (exitStates env d s ts) ts
  obtain ⟨o1, h1⟩ := exitStates_eq env d s ts
  obtain ⟨o, ho⟩ := ((absorbs_absorb s o1).trans (absorbs_absorb _ o2)).trans (absorbs_absorb _ o3)
  refine ⟨o, e, r, ?_⟩
  unfold microstep
  rw [h3, h2, h1, ← ho]
  rfl

end Rfsm.Interp
