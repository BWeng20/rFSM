import Rfsm.Proofs.ReaderContent
import Rfsm.Proofs.ReaderText
/-!
C04 (b), the leaves: `<raise>`, `<cancel>`, `<log expr>`, `<script>`, `<assign>` are read as exactly
one entry that decompiles to the normal form of the element (`LeafOK`), from every `Ready` reader
state.  What one element does is stated once (`run_empty_leaf` for an empty element, `run_rawSax` /
`rawRun` for a raw-text element); each leaf then only unfolds its own handler.  `rawRun` does not mention
the qualified name of the element, which is why a namespace prefix changes nothing (`prefix_raw`); the
start/end-pair form of a childless `<assign>` is `rawRun` with an empty span (`pair_assign`).
-/
namespace Rfsm.Reader
open Rfsm.Descriptor (Str)

theorem pop_push (σ : RS) (t : Tag) : (σ.push t).pop = σ := rfl

theorem bind_ok_self {α} (x : R α) : (x >>= fun v => .ok v) = x := by cases x <;> rfl

/-- what reading a whole raw-text element `<q a>x</q>` (or `<q a/>`) does, given the tag of `q`:
`read_content` finds the end tag by the qualified name, so `q` itself does not matter -/
def rawRun (σ : RS) (t : Tag) (a : Attrs) : Option Str → R RS
  | none => rawElement (σ.push t) t a none >>= (endElement · t)
  | some x =>
    match rawPre (σ.push t) t a with
    | .error e => .error e
    | .ok _ =>
      match resolveCharData x with
      | some v => rawElement (σ.push t) t a (some v)
      | none => .error .unsupportedText

theorem run_raw_body {σ1 : RS} {q : Str} {a : Attrs} (h : σ1.raw = some (q, a, none)) (x : Str) :
    run ((if x.isEmpty then [] else [.text x]) ++ [.stop q]) σ1 = match resolveCharData x with
      | some v => rawElement { σ1 with raw := none } (tagOf (localName q)) a (some v)
      | none => .error .unsupportedText := by
  by_cases hx : x = []
  · subst hx
    simp only [List.isEmpty_nil, if_true, List.nil_append, run, step, h, Option.getD_none]
    cases resolveCharData [] with
    | none => rfl
    | some v => simp only []; cases rawElement { σ1 with raw := none } (tagOf (localName q)) a (some v) <;> rfl
  · have : x.isEmpty = false := by cases x <;> simp_all
    simp only [this, Bool.false_eq_true, if_false, List.singleton_append, run, step, h, Option.isNone_none, if_true,
      Option.getD_some]
    cases resolveCharData x with
    | none => rfl
    | some v => simp only []; cases rawElement _ (tagOf (localName q)) a (some v) <;> rfl

theorem run_rawSax {σ : RS} (hraw : σ.raw = none) (q : Str) (a : Attrs) (txt : Option Str) {t : Tag}
    (ht : tagOf (localName q) = t) (hr : isRawTag t = true) : run (rawSax q a txt) σ = rawRun σ t a txt := by
  cases txt with
  | none =>
    simp only [rawSax, run, rawRun, step, hraw, ht, hr, if_true]
    cases rawElement (σ.push t) t a none >>= (endElement · t) <;> rfl
  | some x =>
    have hstart : step σ (.start q a) = match rawPre (σ.push t) t a with
        | .error e => .error e
        | .ok _ => .ok { σ.push t with raw := some (q, a, none) } := by
      simp only [step, hraw, ht, hr, if_true]
      cases rawPre (σ.push t) t a <;> rfl
    simp only [rawSax, rawRun, List.cons_append]
    cases hp : rawPre (σ.push t) t a with
    | error e => rw [hp] at hstart; simp only [run, hstart]
    | ok u =>
      rw [hp] at hstart
      rw [run_cons_ok hstart, List.nil_append, run_raw_body (by rfl), ht]
      cases resolveCharData x with
      | none => rfl
      | some v => exact congrArg (rawElement · t a (some v)) (by simp [RS.push, ← hraw])

theorem addPrefix_rawSax (p q : Str) (a : Attrs) (txt : Option Str) :
    addPrefix p (rawSax q a txt) = rawSax (p ++ [58] ++ q) a txt := by
  cases txt with
  | none => rfl
  | some x => by_cases hx : x.isEmpty <;> simp [rawSax, addPrefix, hx]

/-- for every raw-text element (`<data> <script> <content> <assign>`), with or without child text, from any state
between elements -/
theorem prefix_raw (p q : Str) (a : Attrs) (txt : Option Str) (hp : p.all (· != 58) = true)
    (hq : localName q = q) (hr : isRawTag (tagOf q) = true) (σ : RS) (hraw : σ.raw = none) :
    run (addPrefix p (rawSax q a txt)) σ = run (rawSax q a txt) σ := by
  have hl : localName (p ++ [58] ++ q) = q := by simpa using localName_prefix p q hp
  rw [addPrefix_rawSax, run_rawSax hraw _ _ _ (by rw [hl]) hr, run_rawSax hraw _ _ _ (by rw [hq]) hr]

/-! ### a leaf element in a `Ready` state

A leaf element amounts to `add_executable_content` after some source ids have been taken; the push of
`start_element` and the pop of `end_element` (or of `read_content`) cancel. -/

/-- for these elements `end_element` only pops -/
theorem addExec_pop {σ : RS} {es : List Exec} (hR : Ready σ es) {t : Tag}
    (ht : t = .raise ∨ t = .cancel ∨ t = .log ∨ t = .script ∨ t = .assign) (s : Nat) (e : Exec) :
    addExec { σ.push t with nextSrc := s } e >>= (endElement · t) =
      .ok (σ.upd (rset σ.fsm.regions σ.curEc (es ++ [e])) σ.nextId s) := by
  rw [addExec_reg (σ := { σ.push t with nextSrc := s }) hR.cur0 hR.reg]
  rcases ht with rfl | rfl | rfl | rfl | rfl <;> rfl

theorem run_empty_leaf {σ : RS} {es : List Exec} (hR : Ready σ es) {name : Str} {a : Attrs} {t : Tag} {s : Nat}
    {e : Exec} (ht : tagOf (localName name) = t) (hleaf : t = .raise ∨ t = .cancel ∨ t = .log)
    (h : startElement σ t a = addExec { σ.push t with nextSrc := s } e) :
    run [.empty name a] σ = .ok (σ.upd (rset σ.fsm.regions σ.curEc (es ++ [e])) σ.nextId s) := by
  obtain ⟨hr, hi⟩ : isRawTag t = false ∧ t ≠ .include := by rcases hleaf with rfl | rfl | rfl <;> decide
  rw [run, step_empty hR.raw a ht hr hi, h, addExec_pop hR (by rcases hleaf with h | h | h <;> simp [h])]
  rfl

/-- a raw-text leaf without child text: the handler runs on the pushed element, `end_element` pops -/
theorem rawRun_none_leaf {σ : RS} {es : List Exec} (hR : Ready σ es) {t : Tag} {a : Attrs} {s : Nat} {e : Exec}
    (ht : t = .script ∨ t = .assign)
    (h : rawElement (σ.push t) t a none = addExec { σ.push t with nextSrc := s } e) :
    rawRun σ t a none = .ok (σ.upd (rset σ.fsm.regions σ.curEc (es ++ [e])) σ.nextId s) := by
  rw [rawRun, h, addExec_pop hR (by rcases ht with rfl | rfl <;> simp)]

/-- a raw-text leaf with child text `x`: `read_content` pops, the handler runs on the state before -/
theorem rawRun_some_leaf {σ : RS} {es : List Exec} (hR : Ready σ es) {t : Tag} {a : Attrs} {x v : Str} {s : Nat}
    {e : Exec} (hres : resolveCharData x = some v)
    (h : rawElement (σ.push t) t a (some v) = addExec { σ with nextSrc := s } e) :
    rawRun σ t a (some x) = .ok (σ.upd (rset σ.fsm.regions σ.curEc (es ++ [e])) σ.nextId s) := by
  rw [addExec_reg (σ := { σ with nextSrc := s }) hR.cur0 hR.reg] at h
  simp only [rawRun, hres, h]
  cases hp : rawPre (σ.push t) t a with
  | ok u => rfl
  | error x => simp [rawElement, hp, bind, Except.bind] at h

theorem notScxml {t : Tag} (h : t ∈ contentParentsNoFinalize) : t ≠ .scxml := by
  simp only [contentParentsNoFinalize, List.mem_cons, List.not_mem_nil, or_false] at h
  rcases h with h | h | h | h | h <;> simp [h]

theorem leaf_raise (e : Str) : LeafOK (.raise e) := by
  intro σ es hR
  refine ⟨.raise e, σ.nextSrc, ?_, by simp [dLeaf, normC], by simp [dEntry]⟩
  refine run_empty_leaf hR (by decide) (.inl rfl) ?_
  simp [startElement, startRaise, verifyParent_ready hR .raise contentParentsNoFinalize (fun _ h => h), required,
    getAttr, bind, Except.bind]
  rfl

theorem leaf_cancel_id (v : Str) : LeafOK (.cancel (some v) none) := by
  intro σ es hR
  have hk : ¬ a_sendid = a_sendidexpr := by decide
  refine ⟨.cancel v .none, σ.nextSrc, ?_, by simp [dLeaf, normC, dData], by simp [dEntry]⟩
  refine run_empty_leaf hR (by decide) (.inr (.inl rfl)) ?_
  simp [startElement, startCancel, verifyParent_ready hR .cancel contentParentsNoFinalize (fun _ h => h), optA,
    getAttr, hk, bind, Except.bind]
  rfl

theorem leaf_cancel_expr (v : Str) : LeafOK (.cancel none (some v)) := by
  intro σ es hR
  have hk : ¬ a_sendidexpr = a_sendid := by decide
  refine ⟨.cancel [] (.source v σ.nextSrc), σ.nextSrc + 1, ?_, by simp [dLeaf, normC, dData], by simp [dEntry]⟩
  refine run_empty_leaf hR (by decide) (.inr (.inl rfl)) ?_
  simp [startElement, startCancel, verifyParent_ready hR .cancel contentParentsNoFinalize (fun _ h => h), optA,
    getAttr, hk, bind, Except.bind, createSource]
  rfl

theorem getAttr_label (l e : Str) :
    (getAttr (strA a_label l ++ optA a_expr (some e)) a_label).getD [] = l ∧
    getAttr (strA a_label l ++ optA a_expr (some e)) a_expr = some e := by
  have h1 : ¬ a_expr = a_label := by decide
  have h2 : ¬ a_label = a_expr := by decide
  by_cases hx : l = []
  · simp [strA, optA, getAttr, h1, hx]
  · have : l.isEmpty = false := by cases l <;> simp_all
    simp [strA, optA, getAttr, h2, this]

theorem leaf_log (l e : Str) : LeafOK (.log l (some e)) := by
  intro σ es hR
  obtain ⟨h1, h2⟩ := getAttr_label l e
  refine ⟨.log l (.source e σ.nextSrc), σ.nextSrc + 1, ?_, by simp [dLeaf, normC, dData], by simp [dEntry]⟩
  refine run_empty_leaf hR (by decide) (.inr (.inr rfl)) ?_
  simp only [startElement, startLog, bind, Except.bind, h1, h2, createSource,
    verifyParent_ready hR .log [.transition, .onexit, .onentry, .if_, .foreach, .finalize] (by decide)]
  rfl

theorem leaf_script (t : Str) (hpl : plainText t = true) : LeafOK (.script t) := by
  intro σ es hR
  have hns : (σ.push .script).parentTag ≠ .scxml := notScxml hR.tag
  have hv := verifyParent_ready hR .script [.scxml, .transition, .onexit, .onentry, .if_, .foreach, .finalize]
    (by decide)
  rw [saxC, run_rawSax hR.raw t_script [] _ (t := .script) (by decide) (by decide)]
  by_cases he : t = []
  · subst he
    refine ⟨.expression (.source [] 0), σ.nextSrc, rawRun_none_leaf hR (.inl rfl) ?_,
      by simp [dLeaf, normC, dData, trim_nil], by simp [dEntry]⟩
    simp [rawElement, rawPre, hns, hv, startScript, getAttr, bind, Except.bind]
    exact bind_ok_self _
  · have hne : t.isEmpty = false := by cases t <;> simp_all
    simp only [hne, Bool.false_eq_true, if_false]
    by_cases htr : trim t = []
    · refine ⟨.expression (.source [] 0), σ.nextSrc, rawRun_some_leaf hR (resolve_plain t hpl) ?_,
        by simp [dLeaf, normC, dData, htr], by simp [dEntry]⟩
      simp [rawElement, rawPre, hns, hv, startScript, getAttr, bind, Except.bind, pop_push, htr, trim_nil]
      exact bind_ok_self _
    · have hne2 : (trim t).isEmpty = false := by cases h : trim t <;> simp_all
      refine ⟨.expression (.source (trim t) σ.nextSrc), σ.nextSrc + 1, rawRun_some_leaf hR (resolve_plain t hpl) ?_,
        by simp [dLeaf, normC, dData], by simp [dEntry]⟩
      simp [rawElement, rawPre, hns, hv, startScript, getAttr, bind, Except.bind, pop_push, trim_idem, hne2,
        createSource]
      exact bind_ok_self _

/-- `<assign location expr?>` without child text, written as an empty element or with an empty span:
the same entry either way -/
theorem rawRun_assign_expr {σ : RS} {es : List Exec} (hR : Ready σ es) (l : Str) (e : Option Str) :
    ∃ x s', dLeaf x = some (normC (.assign l e none)) ∧ ∀ txt, txt = none ∨ txt = some [] →
      rawRun σ .assign ([(a_location, l)] ++ optA a_expr e) txt =
        .ok (σ.upd (rset σ.fsm.regions σ.curEc (es ++ [x])) σ.nextId s') := by
  have hk : ¬ a_location = a_expr := by decide
  have hv := verifyParent_ready hR .assign [.transition, .onexit, .onentry, .if_, .foreach, .finalize] (by decide)
  refine ⟨.assign (.source l σ.nextSrc) (match e with
      | some e => .source e (σ.nextSrc + 1)
      | none => .none), σ.nextSrc + (if e.isSome then 2 else 1),
    by cases e <;> simp [dLeaf, normC, dData, assignValue, normText], ?_⟩
  rintro txt (rfl | rfl)
  · refine rawRun_none_leaf hR (.inr rfl) ?_
    cases e <;>
      simp [rawElement, rawPre, hv, startAssign, required, optA, getAttr, hk, bind, Except.bind, createSource] <;> rfl
  · refine rawRun_some_leaf hR resolve_nil ?_
    cases e <;> simp [rawElement, rawPre, hv, startAssign, required, optA, getAttr, hk, bind, Except.bind, createSource,
      pop_push, trim_nil]

theorem leaf_assign_expr (l : Str) (e : Option Str) : LeafOK (.assign l e none) := by
  intro σ es hR
  obtain ⟨x, s', hd, h⟩ := rawRun_assign_expr hR l e
  refine ⟨x, s', ?_, hd, dEntry_of_leaf _ x (by simp [hd])⟩
  rw [saxC, run_rawSax hR.raw t_assign _ _ (t := .assign) (by decide) (by decide), h _ (.inl rfl)]

theorem leaf_assign_text (l t : Str) (hpl : plainText t = true) : LeafOK (.assign l none (some t)) := by
  intro σ es hR
  have hv := verifyParent_ready hR .assign [.transition, .onexit, .onentry, .if_, .foreach, .finalize] (by decide)
  -- in the form in which `simp` leaves the string
  have hq : trim (34 :: (assignEscape (trim t) ++ [34])) = 34 :: (assignEscape (trim t) ++ [34]) :=
    quoted_trim (assignEscape (trim t))
  have hk : ¬ a_location = a_expr := by decide
  rw [saxC, run_rawSax hR.raw t_assign _ _ (t := .assign) (by decide) (by decide)]
  by_cases htr : trim t = []
  · -- `<assign location="l"> </assign>`: no child text, read like `<assign location="l"/>`
    refine ⟨.assign (.source l σ.nextSrc) .none, σ.nextSrc + 1, rawRun_some_leaf hR (resolve_plain t hpl) ?_,
      by simp [dLeaf, normC, dData, assignValue, normText, htr], by simp [dEntry]⟩
    simp [rawElement, rawPre, hv, startAssign, required, optA, getAttr, hk, bind, Except.bind, createSource, pop_push,
      htr]
  · have hne2 : (trim t).isEmpty = false := by cases h : trim t <;> simp_all
    refine ⟨.assign (.source l σ.nextSrc) (.source ([34] ++ assignEscape (trim t) ++ [34]) (σ.nextSrc + 1)),
      σ.nextSrc + 2, rawRun_some_leaf hR (resolve_plain t hpl) ?_,
      by simp [dLeaf, normC, dData, assignValue, normText, hne2], by simp [dEntry]⟩
    simp [rawElement, rawPre, hv, startAssign, required, optA, getAttr, hk, bind, Except.bind, createSource, pop_push,
      hq, hne2, Data.isEmpty]

theorem pairForm_rawSax (q : Str) (a : Attrs) : pairForm (rawSax q a none) = rawSax q a (some []) := rfl

theorem pair_assign (l : Str) (e : Option Str) (σ : RS) (es : List Exec) (hR : Ready σ es) :
    run (pairForm (saxC (.assign l e none))) σ = run (saxC (.assign l e none)) σ := by
  obtain ⟨x, s', _, h⟩ := rawRun_assign_expr hR l e
  rw [saxC, pairForm_rawSax, run_rawSax hR.raw t_assign _ _ (t := .assign) (by decide) (by decide),
    run_rawSax hR.raw t_assign _ _ (t := .assign) (by decide) (by decide), h _ (.inl rfl), h _ (.inr rfl)]

end Rfsm.Reader
