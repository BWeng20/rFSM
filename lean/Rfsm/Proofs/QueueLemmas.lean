import Rfsm.Model.Queue
/-!
Lemmas for C13.  Interleavings are treated on their own (`IsMergeOf`: a merge is a permutation, a send is
`IsMergeOf.snoc`); the LTS keeps `Inv` in every reachable state, and every merge is the dequeue order of some run.
-/
namespace Rfsm.Queue

section Merge
variable {α : Type}

theorem flatten_set_perm {ps : List (List α)} {i : Nat} {e : α} {t : List α}
    (h : ps[i]? = some (e :: t)) : ps.flatten.Perm (e :: (ps.set i t).flatten) := by
  induction ps generalizing i with
  | nil => simp at h
  | cons l ls ih =>
    cases i with
    | zero =>
      simp only [List.getElem?_cons_zero, Option.some.injEq] at h
      subst h
      simp
    | succ j =>
      simp only [List.getElem?_cons_succ] at h
      have := ih h
      simp only [List.flatten_cons, List.set_cons_succ]
      exact (List.Perm.append_left l this).trans List.perm_middle

theorem IsMergeOf.perm {ps : List (List α)} {out : List α} (h : IsMergeOf ps out) :
    out.Perm ps.flatten := by
  induction h with
  | done h => rw [List.flatten_eq_nil_iff.2 h]
  | take i e t hget _ ih => exact (List.Perm.cons e ih).trans (flatten_set_perm hget).symm

/-- producer `i` appends `e` to what it has sent, the channel appends `e` at its tail -/
theorem IsMergeOf.snoc {ps : List (List α)} {out : List α} (h : IsMergeOf ps out)
    (i : Nat) (l : List α) (e : α) (hi : ps[i]? = some l) :
    IsMergeOf (ps.set i (l ++ [e])) (out ++ [e]) := by
  induction h generalizing l with
  | @done ps hall =>
    have hlt : i < ps.length := (List.getElem?_eq_some_iff.1 hi).1
    have hl : l = [] := hall l (List.mem_of_getElem? hi)
    subst hl
    refine .take i e [] (by simp [hlt]) ?_
    refine .done ?_
    intro x hx
    simp only [List.set_set] at hx
    rcases List.mem_or_eq_of_mem_set hx with hx | hx
    · exact hall x hx
    · exact hx
  | @take ps out j e' t hj _ ih =>
    have hlt : i < ps.length := (List.getElem?_eq_some_iff.1 hi).1
    by_cases hij : i = j
    · subst hij
      have : l = e' :: t := by rw [hi] at hj; exact Option.some.inj hj
      subst this
      refine .take i e' (t ++ [e]) (by simp [hlt]) ?_
      have := ih t (by simp [hlt])
      simpa [List.set_set] using this
    · refine .take j e' t ?_ ?_
      · rw [List.getElem?_set_ne hij]; exact hj
      · have := ih l (by rw [List.getElem?_set_ne (Ne.symm hij)]; exact hi)
        rw [List.set_comm _ _ (Ne.symm hij)] at this
        exact this

theorem restrict_cons_eq (out : List α) (owner : List Nat) (e : α) (o i : Nat) :
    restrict (e :: out) (o :: owner) i =
      if o = i then e :: restrict out owner i else restrict out owner i := by
  unfold restrict
  by_cases h : o = i <;> simp [h]

theorem restrict_take {ps : List (List α)} {o : Nat} {e : α} {t : List α}
    (hget : ps[o]? = some (e :: t)) (out : List α) (owner : List Nat) (j : Nat) :
    restrict (e :: out) (o :: owner) j = ps[j]?.getD [] ↔
      restrict out owner j = (ps.set o t)[j]?.getD [] := by
  have ho : o < ps.length := (List.getElem?_eq_some_iff.1 hget).1
  rw [restrict_cons_eq, List.getElem?_set]
  by_cases h : o = j
  · subst h
    rw [if_pos rfl, if_pos rfl, if_pos ho, hget]
    simp
  · simp [h]

/-- sender order, as in the property text: the positions of `out` can be attributed to the
producers so that producer `i`'s positions spell its list -/
theorem IsMergeOf.owners {ps : List (List α)} {out : List α} (h : IsMergeOf ps out) :
    ∃ owner : List Nat, owner.length = out.length ∧ (∀ o ∈ owner, o < ps.length) ∧
      ∀ i, i < ps.length → restrict out owner i = ps[i]?.getD [] := by
  induction h with
  | @done ps hall =>
    refine ⟨[], rfl, by simp, ?_⟩
    intro i hi
    have : ps[i] = [] := hall _ (List.getElem_mem hi)
    simp [restrict, hi, this]
  | @take ps out i e t hget _ ih =>
    obtain ⟨owner, hlen, hlt, hr⟩ := ih
    refine ⟨i :: owner, by simp [hlen], ?_, fun j hj =>
      (restrict_take hget out owner j).2 (hr j (by simpa using hj))⟩
    intro o ho
    rcases List.mem_cons.1 ho with rfl | ho
    · exact (List.getElem?_eq_some_iff.1 hget).1
    · simpa using hlt o ho

theorem isMergeOf_of_owners {ps : List (List α)} {out : List α} (owner : List Nat)
    (hlen : owner.length = out.length) (hlt : ∀ o ∈ owner, o < ps.length)
    (hr : ∀ i, i < ps.length → restrict out owner i = ps[i]?.getD []) : IsMergeOf ps out := by
  induction out generalizing ps owner with
  | nil =>
    refine .done ?_
    intro l hl
    obtain ⟨i, hi, rfl⟩ := List.getElem_of_mem hl
    have := hr i hi
    simp [restrict, hi] at this
    exact this
  | cons e out ih =>
    cases owner with
    | nil => simp at hlen
    | cons o owner =>
      have ho : o < ps.length := hlt o (by simp)
      have hget : ps[o]? = some (e :: restrict out owner o) := by
        have h0 := hr o ho
        rw [restrict_cons_eq, if_pos rfl, List.getElem?_eq_getElem ho] at h0
        rw [List.getElem?_eq_getElem ho]
        exact congrArg some h0.symm
      exact .take o e _ hget (ih owner (by simpa using hlen)
        (fun x hx => by simpa using hlt x (by simp [hx]))
        fun i hi => (restrict_take hget out owner i).1 (hr i (by simpa using hi)))
end Merge

section Seq
variable {σ ε ο : Type} (M : Sys σ ε ο)

theorem seqState_snoc (s : σ) (es : List ε) (e : ε) :
    seqState M s (es ++ [e]) =
      if M.accept (seqState M s es) e then (M.step (seqState M s es) e).1 else seqState M s es := by
  induction es generalizing s with
  | nil => simp only [List.nil_append, seqState]; split <;> simp_all
  | cons a r ih =>
    simp only [List.cons_append, seqState]
    split <;> exact ih _

theorem segments_snoc (s : σ) (es : List ε) (e : ε) :
    segments M s (es ++ [e]) =
      segments M s es ++
        [if M.accept (seqState M s es) e then (M.step (seqState M s es) e).2 else []] := by
  induction es generalizing s with
  | nil => simp only [List.nil_append, segments, seqState]; split <;> simp_all
  | cons a r ih =>
    simp only [List.cons_append, segments, seqState]
    split <;> simp [ih]

theorem verdicts_snoc (s : σ) (es : List ε) (e : ε) :
    verdicts M s (es ++ [e]) = verdicts M s es ++ [M.accept (seqState M s es) e] := by
  induction es generalizing s with
  | nil => simp only [List.nil_append, verdicts, seqState]; split <;> simp_all
  | cons a r ih =>
    simp only [List.cons_append, verdicts, seqState]
    split <;> simp [ih]

theorem segments_length (s : σ) (es : List ε) : (segments M s es).length = es.length := by
  induction es generalizing s with
  | nil => rfl
  | cons a r ih => simp only [segments]; split <;> simp [ih]

theorem verdicts_all_true (hacc : ∀ s e, M.accept s e = true) (s : σ) (es : List ε) :
    ∀ b ∈ verdicts M s es, b = true := by
  induction es generalizing s with
  | nil => simp [verdicts]
  | cons a r ih =>
    simp only [verdicts, hacc, if_true]
    intro b hb
    rcases List.mem_cons.1 hb with rfl | hb
    · rfl
    · exact ih _ b hb

end Seq

section LTS
variable {σ ε ο : Type}

theorem next_send_iff {M : Sys σ ε ο} {s s' : St σ ε ο} {i : Nat} :
    next M s (.send i) = some s' ↔ ∃ e t, s.prods[i]? = some (e :: t) ∧
      s' = { s with prods := s.prods.set i t, sent := s.sent.set i ((s.sent[i]?.getD []) ++ [e]),
                    fifo := s.fifo ++ [e] } := by
  constructor
  · intro h
    simp only [next] at h
    split at h
    · rename_i e t hget
      exact ⟨e, t, hget, (Option.some.inj h).symm⟩
    · simp at h
  · rintro ⟨e, t, hget, rfl⟩
    simp only [next, hget]

theorem next_recv_iff {M : Sys σ ε ο} {s s' : St σ ε ο} :
    next M s .recv = some s' ↔ s.pending = [] ∧ ∃ e q, s.fifo = e :: q ∧
      s' = { s with fifo := q,
                    sess := if M.accept s.sess e then (M.step s.sess e).1 else s.sess,
                    pending := if M.accept s.sess e then (M.step s.sess e).2 else [],
                    deq := s.deq ++ [(e, M.accept s.sess e)] } := by
  constructor
  · intro h
    simp only [next] at h
    split at h
    · rename_i e q hp hf
      refine ⟨hp, e, q, hf, ?_⟩
      split at h <;> simp_all
    · simp at h
  · rintro ⟨hp, e, q, hf, rfl⟩
    simp only [next, hp, hf]
    split <;> simp_all

theorem next_tick_iff {M : Sys σ ε ο} {s s' : St σ ε ο} :
    next M s .tick = some s' ↔
      ∃ o r, s.pending = o :: r ∧ s' = { s with pending := r, trace := s.trace ++ [o] } := by
  constructor
  · intro h
    simp only [next] at h
    split at h
    · rename_i o r hp
      exact ⟨o, r, hp, (Option.some.inj h).symm⟩
    · simp at h
  · rintro ⟨o, r, hp, rfl⟩
    simp only [next, hp]

structure Inv (M : Sys σ ε ο) (ps : List (List ε)) (s0 : σ) (s : St σ ε ο) : Prop where
  lenS : s.sent.length = ps.length
  lenP : s.prods.length = ps.length
  split : ∀ i : Nat, (s.sent[i]?.getD []) ++ (s.prods[i]?.getD []) = ps[i]?.getD []
  /-- dequeued ++ in flight is an interleaving of what has been sent (in flight = sent − dequeued) -/
  merge : IsMergeOf s.sent (s.deq.map Prod.fst ++ s.fifo)
  sess : s.sess = seqState M s0 (s.deq.map Prod.fst)
  verd : s.deq.map Prod.snd = verdicts M s0 (s.deq.map Prod.fst)
  trace : s.trace ++ s.pending = (segments M s0 (s.deq.map Prod.fst)).flatten

theorem inv_init (M : Sys σ ε ο) (ps : List (List ε)) (s0 : σ) : Inv M ps s0 (init ps s0) := by
  refine ⟨by simp [init], by simp [init], ?_, ?_, by simp [init, seqState], by simp [init, verdicts],
    by simp [init, segments]⟩
  · intro i
    by_cases h : i < ps.length <;> simp [init, h]
  · simp only [init, List.map_nil, List.append_nil]
    exact .done (by simp)

theorem inv_next {M : Sys σ ε ο} {ps : List (List ε)} {s0 : σ} {s s' : St σ ε ο} {c : Choice}
    (h : Inv M ps s0 s) (hn : next M s c = some s') : Inv M ps s0 s' := by
  cases c with
  | send i =>
    obtain ⟨e, t, hget, rfl⟩ := next_send_iff.1 hn
    have hip : i < s.prods.length := (List.getElem?_eq_some_iff.1 hget).1
    have his : i < s.sent.length := by rw [h.lenS, ← h.lenP]; exact hip
    refine ⟨by simp [h.lenS], by simp [h.lenP], ?_, ?_, h.sess, h.verd, h.trace⟩
    · intro j
      by_cases hij : i = j
      · subst hij
        have := h.split i
        simp only [hget, Option.getD_some] at this
        simp [his, hip, ← this]
      · simp only [List.getElem?_set_ne hij]
        exact h.split j
    · have := h.merge.snoc i (s.sent[i]?.getD []) e (by simp [his])
      simpa [List.append_assoc] using this
  | recv =>
    obtain ⟨hpend, e, q, hfifo, rfl⟩ := next_recv_iff.1 hn
    have hm := h.merge
    have ht := h.trace
    rw [hfifo] at hm
    rw [hpend, List.append_nil] at ht
    refine ⟨h.lenS, h.lenP, h.split, by simpa using hm, ?_, ?_, ?_⟩
    · simp [seqState_snoc, ← h.sess]
    · simp [verdicts_snoc, ← h.sess, h.verd]
    · simp [segments_snoc, ← h.sess, ht]
  | tick =>
    obtain ⟨o, r, hpend, rfl⟩ := next_tick_iff.1 hn
    refine ⟨h.lenS, h.lenP, h.split, h.merge, h.sess, h.verd, ?_⟩
    have := h.trace
    rw [hpend] at this
    simpa [List.append_assoc] using this

theorem inv_run {M : Sys σ ε ο} {ps : List (List ε)} {s0 : σ} {sched : List Choice}
    {s s' : St σ ε ο} (h : Inv M ps s0 s) (hr : run M s sched = some s') : Inv M ps s0 s' := by
  induction sched generalizing s with
  | nil => simp only [run, Option.some.injEq] at hr; exact hr ▸ h
  | cons c cs ih =>
    simp only [run] at hr
    split at hr
    · rename_i s1 hn
      exact ih (inv_next h hn) hr
    · simp at hr

theorem sent_eq_of_done {M : Sys σ ε ο} {ps : List (List ε)} {s0 : σ} {s : St σ ε ο}
    (h : Inv M ps s0 s) (hd : ∀ l ∈ s.prods, l = []) : s.sent = ps := by
  apply List.ext_getElem h.lenS
  intro i his hi
  have := h.split i
  rw [List.getElem?_eq_getElem his, List.getElem?_eq_getElem hi,
    List.getElem?_eq_getElem (h.lenP ▸ hi), hd _ (List.getElem_mem _)] at this
  simpa using this

theorem progress (M : Sys σ ε ο) (s : St σ ε ο) (h : ¬ complete s) :
    ∃ c, (next M s c).isSome = true := by
  match hp : s.pending, hf : s.fifo with
  | o :: r, _ => exact ⟨.tick, by rw [next_tick_iff.2 ⟨o, r, hp, rfl⟩]; rfl⟩
  | [], e :: q => exact ⟨.recv, by rw [next_recv_iff.2 ⟨hp, e, q, hf, rfl⟩]; rfl⟩
  | [], [] =>
    have : ¬ ∀ l ∈ s.prods, l = [] := fun hall => h ⟨hall, hf, hp⟩
    obtain ⟨l, hl⟩ := Classical.not_forall.1 this
    obtain ⟨hl, hne⟩ := Classical.not_imp.1 hl
    obtain ⟨i, hi, rfl⟩ := List.getElem_of_mem hl
    match hli : s.prods[i] with
    | [] => exact absurd hli hne
    | e :: t =>
      exact ⟨.send i, by rw [next_send_iff.2 ⟨e, t, by simp [hi, hli], rfl⟩]; rfl⟩

/-! ### model completeness: every interleaving is produced by some schedule -/

theorem run_append (M : Sys σ ε ο) (s : St σ ε ο) (a b : List Choice) :
    run M s (a ++ b) = (run M s a).bind (fun s' => run M s' b) := by
  induction a generalizing s with
  | nil => simp [run]
  | cons c cs ih =>
    simp only [List.cons_append, run]
    cases next M s c with
    | none => simp
    | some s1 => simp [ih]

theorem drain (M : Sys σ ε ο) (s : St σ ε ο) :
    run M s (List.replicate s.pending.length .tick) =
      some { s with pending := [], trace := s.trace ++ s.pending } := by
  generalize hp : s.pending = p
  induction p generalizing s with
  | nil => cases s; simp_all [run]
  | cons o r ih =>
    rw [List.length_cons, List.replicate_succ, run, next_tick_iff.2 ⟨o, r, hp, rfl⟩]
    simpa using ih { s with pending := r, trace := s.trace ++ [o] } rfl

theorem deliver (M : Sys σ ε ο) (s : St σ ε ο) {i : Nat} {e : ε} {t : List ε}
    (hget : s.prods[i]? = some (e :: t)) (hp : s.pending = []) (hf : s.fifo = []) :
    ∃ n s', run M s (.send i :: .recv :: List.replicate n .tick) = some s' ∧
      s'.prods = s.prods.set i t ∧ s'.pending = [] ∧ s'.fifo = [] ∧
      s'.deq.map Prod.fst = s.deq.map Prod.fst ++ [e] := by
  let s1 : St σ ε ο :=
    { s with prods := s.prods.set i t, sent := s.sent.set i ((s.sent[i]?.getD []) ++ [e]),
             fifo := s.fifo ++ [e] }
  have h1 : next M s (.send i) = some s1 := next_send_iff.2 ⟨e, t, hget, rfl⟩
  have h2 : next M s1 .recv = some _ := next_recv_iff.2 ⟨hp, e, [], by simp [s1, hf], rfl⟩
  exact ⟨_, _, by simp only [run, h1, h2]; exact drain M _, rfl, rfl, rfl, by simp [s1]⟩

theorem every_merge_is_a_run (M : Sys σ ε ο) (ps : List (List ε)) (out : List ε)
    (h : IsMergeOf ps out) (st : St σ ε ο) (hps : st.prods = ps) (hp : st.pending = [])
    (hf : st.fifo = []) :
    ∃ sched st', run M st sched = some st' ∧ complete st' ∧
      st'.deq.map Prod.fst = st.deq.map Prod.fst ++ out := by
  induction h generalizing st with
  | done hall => exact ⟨[], st, rfl, ⟨hps ▸ hall, hf, hp⟩, by simp⟩
  | @take ps out i e t hget _ ih =>
    obtain ⟨n, s1, h1, hprods, hp1, hf1, hd1⟩ := deliver M st (hps ▸ hget) hp hf
    obtain ⟨sched, st', h2, hc, hd⟩ := ih s1 (by rw [hprods, hps]) hp1 hf1
    refine ⟨(.send i :: .recv :: List.replicate n .tick) ++ sched, st', ?_, hc, ?_⟩
    · rw [run_append, h1]
      exact h2
    · rw [hd, hd1, List.append_assoc]
      rfl
end LTS
end Rfsm.Queue
