import Rfsm.Model.Http
/-!
The form codec of C20: what rocket's form parser reads from what the `url` serializer wrote is the
list of pairs itself (`formDecode_formEncode`).  One encoded byte decodes to the byte and holds neither
`&` nor `=` (`encByte_ok`, evaluated over the 256 bytes); the serializer joins the encoded pairs with
`&` (`formEncode_cons`), and splitting at `&` undoes joining (`pieces_join`).
-/
namespace Rfsm.Http

theorem byte_all (P : UInt8 → Bool)
    (h : (List.range 256).all (fun n => P (UInt8.ofNat n)) = true) : ∀ b, P b = true := by
  intro b
  have h2 := List.all_eq_true.mp h b.toNat (by simp [List.mem_range]; exact b.toNat_lt)
  simpa using h2

/-! ### percent decoding -/

theorem pctDecode_cons_ne (c : UInt8) (r : Bytes) (h : c ≠ 37) :
    pctDecode (c :: r) = c :: pctDecode r := by
  match r with
  | [] => simp [pctDecode]
  | [_] => simp [pctDecode]
  | a :: b :: r => simp [pctDecode, h]

theorem pctDecode_esc (h l x y : UInt8) (r : Bytes) (hh : hexVal h = some x) (hl : hexVal l = some y) :
    pctDecode (37 :: h :: l :: r) = (x * 16 + y) :: pctDecode r := by
  simp [pctDecode, hh, hl]

def encByteOK (b : UInt8) : Bool :=
  ((encByte b).all fun c => c != 38 && c != 61) &&
  match (encByte b).map plusToSpace with
  | [c] => c == b && c != 37
  | [p, h, l] => p == 37 && (match hexVal h, hexVal l with | some x, some y => x * 16 + y == b | _, _ => false)
  | _ => false

-- evaluation over the 256 bytes is the proof: `percent_encode_byte` is a 256-entry table in the crate
theorem encByte_ok (b : UInt8) : encByteOK b = true := byte_all encByteOK (by decide +kernel) b

theorem decode_encByte (b : UInt8) (r : Bytes) :
    pctDecode ((encByte b).map plusToSpace ++ r) = b :: pctDecode r := by
  have := (Bool.and_eq_true _ _ ▸ encByte_ok b).2
  split at this
  · rename_i c hc
    simp only [Bool.and_eq_true, beq_iff_eq, bne_iff_ne, ne_eq] at this
    rw [hc, this.1]
    exact pctDecode_cons_ne b r (this.1 ▸ this.2)
  · rename_i p h l hc
    rw [hc]
    split at this
    · rename_i x y hx hy
      simp only [Bool.and_eq_true, beq_iff_eq] at this
      rw [this.1, ← this.2]
      exact pctDecode_esc h l x y r hx hy
    · simp at this
  · cases this

theorem encStr_cons (b : UInt8) (s : Bytes) : encStr (b :: s) = encByte b ++ encStr s := by
  simp [encStr]

theorem decode_encStr_append (s r : Bytes) :
    pctDecode ((encStr s).map plusToSpace ++ r) = s ++ pctDecode r := by
  induction s with
  | nil => simp [encStr]
  | cons b s ih =>
    rw [encStr_cons, List.map_append, List.append_assoc, decode_encByte, ih]
    simp

theorem urlDecode_encStr (s : Bytes) : urlDecode (encStr s) = s := by
  have := decode_encStr_append s []
  simpa [urlDecode, pctDecode] using this

/-! ### no separator inside an encoded string -/

theorem encByte_noSep (b c : UInt8) (h : c ∈ encByte b) : c ≠ 38 ∧ c ≠ 61 := by
  have := List.all_eq_true.1 (Bool.and_eq_true _ _ ▸ encByte_ok b).1 c h
  simpa using this

theorem encStr_noSep (s : Bytes) (c : UInt8) (h : c ∈ encStr s) : c ≠ 38 ∧ c ≠ 61 := by
  simp [encStr] at h
  obtain ⟨b, _, hb⟩ := h
  exact encByte_noSep b c hb

/-! ### splitting -/

theorem splitAtByte_append (b : UInt8) (x y : Bytes) (h : b ∉ x) :
    splitAtByte b (x ++ b :: y) = (x, y) := by
  induction x with
  | nil => simp [splitAtByte]
  | cons c x ih =>
    have hc : c ≠ b := fun e => h (by simp [e])
    have hx : b ∉ x := fun e => h (by simp [e])
    simp [splitAtByte, hc, ih hx]

theorem pieces_ne_nil (s : Bytes) : pieces s ≠ [] := by
  induction s with
  | nil => simp [pieces]
  | cons c s ih =>
    unfold pieces
    split
    · simp
    · split <;> simp

theorem pieces_noAmp (x : Bytes) (h : (38 : UInt8) ∉ x) : pieces x = [x] := by
  induction x with
  | nil => simp [pieces]
  | cons c x ih =>
    have hc : c ≠ 38 := fun e => h (by simp [e])
    have hx : (38 : UInt8) ∉ x := fun e => h (by simp [e])
    simp [pieces, hc, ih hx]

theorem pieces_append (x y : Bytes) (h : (38 : UInt8) ∉ x) :
    pieces (x ++ 38 :: y) = x :: pieces y := by
  induction x with
  | nil => simp [pieces]
  | cons c x ih =>
    have hc : c ≠ 38 := fun e => h (by simp [e])
    have hx : (38 : UInt8) ∉ x := fun e => h (by simp [e])
    simp [pieces, hc, ih hx]

/-! ### the serializer as a join -/

theorem pieces_join (x : Bytes) (ys : List Bytes) (hx : (38 : UInt8) ∉ x) (hys : ∀ y ∈ ys, (38 : UInt8) ∉ y) :
    pieces (x ++ (ys.map (fun y => 38 :: y)).flatten) = x :: ys := by
  induction ys generalizing x with
  | nil => simpa using pieces_noAmp x hx
  | cons y ys ih =>
    rw [List.map_cons, List.flatten_cons, List.cons_append, pieces_append x _ hx,
      ih y (hys y (List.mem_cons_self ..)) (fun z hz => hys z (List.mem_cons_of_mem _ hz))]

def encPair (kv : Bytes × Bytes) : Bytes := encStr kv.1 ++ [61] ++ encStr kv.2

theorem encPair_ne_nil (kv : Bytes × Bytes) : encPair kv ≠ [] := by simp [encPair]

theorem encPair_noAmp (kv : Bytes × Bytes) : (38 : UInt8) ∉ encPair kv := by
  intro h
  simp [encPair] at h
  rcases h with h | h
  · exact (encStr_noSep _ _ h).1 rfl
  · exact (encStr_noSep _ _ h).1 rfl

theorem foldl_appendPair (out : Bytes) (hne : out ≠ []) (kvs : List (Bytes × Bytes)) :
    kvs.foldl appendPair out = out ++ (kvs.map (fun kv => 38 :: encPair kv)).flatten := by
  induction kvs generalizing out with
  | nil => simp
  | cons kv kvs ih =>
    have hemp : out.isEmpty = false := by cases out <;> simp_all
    have hstep : appendPair out kv = out ++ 38 :: encPair kv := by
      simp [appendPair, hemp, encPair]
    rw [List.foldl_cons, hstep, ih _ (by simp)]
    simp

theorem formEncode_cons (kv : Bytes × Bytes) (kvs : List (Bytes × Bytes)) :
    formEncode (kv :: kvs) = encPair kv ++ ((kvs.map encPair).map (fun y => 38 :: y)).flatten := by
  have h0 : appendPair [] kv = encPair kv := by simp [appendPair, encPair]
  rw [formEncode, List.foldl_cons, h0, foldl_appendPair _ (encPair_ne_nil kv), List.map_map]
  rfl

theorem splitAtByte_encPair (kv : Bytes × Bytes) :
    splitAtByte 61 (encPair kv) = (encStr kv.1, encStr kv.2) := by
  have h : (61 : UInt8) ∉ encStr kv.1 := fun h => (encStr_noSep _ _ h).2 rfl
  simpa [encPair] using splitAtByte_append 61 (encStr kv.1) (encStr kv.2) h

theorem rawFields_formEncode (kvs : List (Bytes × Bytes)) :
    rawFields (formEncode kvs) = kvs.map (fun kv => (encStr kv.1, encStr kv.2)) := by
  cases kvs with
  | nil => simp [rawFields, formEncode, pieces]
  | cons kv kvs =>
    rw [rawFields, formEncode_cons, pieces_join _ _ (encPair_noAmp kv)
      (fun y hy => by obtain ⟨p, _, rfl⟩ := List.mem_map.1 hy; exact encPair_noAmp p), ← List.map_cons,
      List.filter_eq_self.2 (fun f hf => by
        obtain ⟨p, _, rfl⟩ := List.mem_map.1 hf
        simpa using encPair_ne_nil p),
      List.map_map]
    exact List.map_congr_left fun p _ => splitAtByte_encPair p

theorem formDecode_formEncode (kvs : List (Bytes × Bytes)) : formDecode (formEncode kvs) = kvs := by
  rw [formDecode, rawFields_formEncode, List.map_map]
  exact List.map_id'' (fun p => by simp [urlDecode_encStr]) kvs

end Rfsm.Http
