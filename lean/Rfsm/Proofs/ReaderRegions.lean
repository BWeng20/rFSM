import Rfsm.Model.ReaderDoc
/-!
C04 (b), the region table on its own (`Regions`, `rget` / `rset`; no reader state occurs here).

Two notions carry the induction over content in `ReaderContent`: the frame of a stretch of reading (`Grows`:
which regions are kept, which ids are allocated; stretches compose by `Grows.trans`) and the denotation of
a region in a window of ids (`DenB`, with `DenL` for a list of entries and `DenT` for an else chain), which
survives every later change outside the window (`.frame`).
-/
namespace Rfsm.Reader
open Rfsm.Descriptor (Str)

theorem rget_rset (g : Regions) (k k' : Nat) (v : List Exec) :
    rget (rset g k v) k' = if k' = k then some v else rget g k' := by
  induction g with
  | nil =>
    by_cases h : k' = k
    · simp [rset, rget, h]
    · have : ¬ k = k' := fun e => h e.symm
      simp [rset, rget, h, this]
  | cons p r ih =>
    obtain ⟨a, w⟩ := p
    by_cases h1 : a = k <;> by_cases h2 : k' = k <;> simp [rset, rget, h1, h2, ih] <;> grind

theorem le_maxKey {g : Regions} {k : Nat} (h : (rget g k).isSome) : k ≤ maxKey g := by
  induction g with
  | nil => simp [rget] at h
  | cons p r ih =>
    obtain ⟨a, w⟩ := p
    simp only [rget] at h
    simp only [maxKey]
    split at h
    · omega
    · have := ih h; omega

theorem setLast_concat {α} (l : List α) (x y : α) : setLast (l ++ [x]) y = l ++ [y] := by
  simp [setLast]

theorem mapO_append {α β} (f : α → Option β) (a b : List α) (x y : List β)
    (ha : mapO f a = some x) (hb : mapO f b = some y) : mapO f (a ++ b) = some (x ++ y) := by
  induction a generalizing x with
  | nil => simp [mapO] at ha; subst ha; simpa using hb
  | cons p r ih =>
    simp only [mapO, List.cons_append] at *
    cases hp : f p with
    | none => simp [hp] at ha
    | some p' =>
      cases hr : mapO f r with
      | none => simp [hp, hr] at ha
      | some r' =>
        simp [hp, hr] at ha
        subst ha
        simp [ih r' hr]

theorem mapO_single {α β} (f : α → Option β) (a : α) (x : β) (h : f a = some x) :
    mapO f [a] = some [x] := by
  simp [mapO, h]

/-! ### frames -/

/-- from table `g` with id counter `n` to `g'` with counter `n'`: the regions below `n` other than `r`
are kept, exactly the ids `[n, n')` are allocated -/
structure Grows (g g' : Regions) (n n' r : Nat) : Prop where
  le : n ≤ n'
  old : ∀ id, id < n → id ≠ r → rget g' id = rget g id
  fresh : ∀ id, n' ≤ id → rget g' id = none
  alloc : ∀ id, n ≤ id → id < n' → (rget g' id).isSome

theorem Grows.refl {g : Regions} {n : Nat} (r : Nat) (hf : ∀ id, n ≤ id → rget g id = none) : Grows g g n n r :=
  ⟨Nat.le_refl _, fun _ _ _ => rfl, hf, fun _ h1 h2 => absurd h2 (Nat.not_lt.2 h1)⟩

theorem Grows.trans {g g1 g2 : Regions} {n n1 n2 r r' : Nat} (h1 : Grows g g1 n n1 r) (h2 : Grows g1 g2 n1 n2 r')
    (hr : r' = r ∨ n ≤ r') (ha : n ≤ r' → (rget g2 r').isSome) : Grows g g2 n n2 r where
  le := Nat.le_trans h1.le h2.le
  old id hid hne := by rw [h2.old id (by have := h1.le; omega) (by omega), h1.old id hid hne]
  fresh := h2.fresh
  alloc id hlo hhi := by
    by_cases hr' : id = r'
    · exact hr' ▸ ha (hr' ▸ hlo)
    · by_cases hlt : id < n1
      · rw [h2.old id hlt hr']; exact h1.alloc id hlo hlt
      · exact h2.alloc id (by omega) hhi

/-- `g1` is `g` with region `r` set to `v` and the new, empty region `n` -/
def Opened (g g1 : Regions) (r : Nat) (v : List Exec) (n : Nat) : Prop :=
  ∀ id, rget g1 id = if id = r then some v else if id = n then some [] else rget g id

/-- how `start_if` / `start_for_each` reach it: the entry `e0` is added to `r`, region `n` is opened, the entry is
completed to `e1` -/
theorem Opened.rset (g : Regions) (r n : Nat) (es : List Exec) (e0 e1 : Exec) :
    Opened g (rset (rset (rset g r (es ++ [e0])) n []) r (es ++ [e1])) r (es ++ [e1]) n := by
  intro id; simp only [rget_rset]; by_cases h : id = r <;> simp [h]

theorem Opened.grows {g g1 : Regions} {r n : Nat} {v : List Exec} (h : Opened g g1 r v n) (hrn : r < n)
    (hf : ∀ id, n ≤ id → rget g id = none) :
    Grows g g1 n (n + 1) r ∧ rget g1 r = some v ∧ rget g1 n = some [] := by
  refine ⟨⟨Nat.le_succ _, ?_, ?_, ?_⟩, by simp [h r], by simp [h n, show n ≠ r by omega]⟩
  · intro id hid hne; simp [h id, hne, show id ≠ n by omega]
  · intro id hid; simp [h id, show id ≠ r by omega, show id ≠ n by omega, hf id (by omega)]
  · intro id hlo hhi
    have e : id = n := by omega
    simp [e, h n, show n ≠ r by omega]

/-- regions right after `<elseif cond=c2/>`, before the deepest else is linked -/
def elseifRegions (g : Regions) (n s : Nat) (c2 : Str) : Regions :=
  rset (rset (rset (rset g n []) n [.ifE (.source c2 s) 0 0]) (n + 1) []) n [.ifE (.source c2 s) (n + 1) 0]

theorem rget_elseifRegions (g : Regions) (n s : Nat) (c2 : Str) (id : Nat) :
    rget (elseifRegions g n s c2) id =
      if id = n then some [.ifE (.source c2 s) (n + 1) 0] else if id = n + 1 then some [] else rget g id := by
  simp only [elseifRegions, rget_rset]; by_cases h : id = n <;> simp [h]

theorem elseif_grows {g : Regions} {n H : Nat} (s : Nat) (c2 : Str) (vH : List Exec) (hHn : H < n)
    (hfresh : ∀ id, n ≤ id → rget g id = none) :
    Grows g (rset (elseifRegions g n s c2) H vH) n (n + 2) H ∧
      rget (rset (elseifRegions g n s c2) H vH) H = some vH ∧
      rget (rset (elseifRegions g n s c2) H vH) n = some [.ifE (.source c2 s) (n + 1) 0] ∧
      rget (rset (elseifRegions g n s c2) H vH) (n + 1) = some [] := by
  have hg1 : ∀ id, rget (rset (elseifRegions g n s c2) H vH) id = if id = H then some vH
      else if id = n then some [.ifE (.source c2 s) (n + 1) 0] else if id = n + 1 then some [] else rget g id := by
    intro id; simp only [rget_rset, rget_elseifRegions]
  refine ⟨⟨by omega, fun id h1 h2 => by rw [hg1, if_neg h2, if_neg (by omega), if_neg (by omega)],
    fun id h1 => by rw [hg1, if_neg (by omega), if_neg (by omega), if_neg (by omega)]; exact hfresh id (by omega),
    fun id h1 h2 => ?_⟩, by rw [hg1, if_pos rfl], by rw [hg1, if_neg (by omega), if_pos rfl],
    by rw [hg1, if_neg (by omega), if_neg (by omega), if_pos rfl]⟩
  rw [hg1, if_neg (by omega)]
  rcases (by omega : id = n ∨ id = n + 1) with e | e
  · rw [if_pos e]; rfl
  · rw [if_neg (by omega), if_pos e]; rfl

/-! ### the else chain -/

theorem ifE_last_inj {pre pre' : List Exec} {c c' : Data} {ct ct' e e' : Nat}
    (h : some (pre ++ [Exec.ifE c ct e]) = some (pre' ++ [.ifE c' ct' e'])) :
    pre = pre' ∧ c = c' ∧ ct = ct' ∧ e = e' := by
  have := List.append_inj' (Option.some.inj h) rfl
  simpa using this

/-- `Walk g m r h k`: following `else_content` of the last entry from region `r` one reaches, after
`k` steps, region `h` whose last entry is an `If` without else; all regions on the way are `< m` -/
inductive Walk (g : Regions) (m : Nat) : Nat → Nat → Nat → Prop where
  | here {r : Nat} {pre : List Exec} {c : Data} {ct : Nat} :
      r ≠ 0 → r < m → rget g r = some (pre ++ [.ifE c ct 0]) → Walk g m r r 0
  | step {r e h k : Nat} {pre : List Exec} {c : Data} {ct : Nat} :
      r ≠ 0 → r < m → rget g r = some (pre ++ [.ifE c ct e]) → e ≠ 0 → Walk g m e h k → Walk g m r h (k + 1)

theorem Walk.end_ {g : Regions} {m r h k : Nat} (w : Walk g m r h k) :
    h ≠ 0 ∧ h < m ∧ ∃ pre c ct, rget g h = some (pre ++ [.ifE c ct 0]) := by
  induction w with
  | here h0 hm hr => exact ⟨h0, hm, _, _, _, hr⟩
  | step _ _ _ _ _ ih => exact ih

theorem Walk.frame {g g' : Regions} {m r h k : Nat} (w : Walk g m r h k)
    (hf : ∀ id, id < m → rget g' id = rget g id) : Walk g' m r h k := by
  induction w with
  | here h0 hm hr => exact .here h0 hm (by rw [hf _ hm]; exact hr)
  | step h0 hm hr he _ ih => exact .step h0 hm (by rw [hf _ hm]; exact hr) he ih

theorem Walk.mono {g : Regions} {m m' r h k : Nat} (w : Walk g m r h k) (hm : m ≤ m') : Walk g m' r h k := by
  induction w with
  | here h0 hlt hr => exact .here h0 (Nat.lt_of_lt_of_le hlt hm) hr
  | step h0 hlt hr he _ ih => exact .step h0 (Nat.lt_of_lt_of_le hlt hm) hr he ih

/-- the loop of `start_else` / `start_else_if` stores the new else region at the end of the chain; it runs on the
table `gA` in which the new regions are already open, the chain lies below them -/
theorem Walk.set {g gA : Regions} {m r h k : Nat} (w : Walk g m r h k) (hf : ∀ id, id < m → rget gA id = rget g id)
    (fuel E : Nat) (hk : k < fuel) :
    ∃ pre c ct, rget g h = some (pre ++ [.ifE c ct 0]) ∧
      setDeepestElse fuel gA r E = .ok (rset gA h (pre ++ [.ifE c ct E])) := by
  induction w generalizing fuel with
  | @here r pre c ct h0 hm hr =>
    cases fuel with
    | zero => omega
    | succ f =>
      refine ⟨pre, c, ct, hr, ?_⟩
      simp [setDeepestElse, h0, hf r hm, hr, setLast_concat]
  | @step r e h k pre c ct h0 hm hr he _ ih =>
    cases fuel with
    | zero => omega
    | succ f =>
      obtain ⟨pre', c', ct', hh, hs⟩ := ih f (by omega)
      refine ⟨pre', c', ct', hh, ?_⟩
      have : e > 0 := Nat.pos_of_ne_zero he
      simp [setDeepestElse, h0, hf r hm, hr, this, hs]

/-- after linking a new region `E` (whose last entry is an `If` without else) the chain is one longer -/
theorem Walk.extend {g g' : Regions} {m r h k E : Nat} (w : Walk g m r h k)
    {pre : List Exec} {c : Data} {ct : Nat} {preE : List Exec} {cE : Data} {ctE : Nat}
    (hE0 : E ≠ 0) (hEm : m ≤ E)
    (hh : rget g' h = some (pre ++ [.ifE c ct E]))
    (hE : rget g' E = some (preE ++ [.ifE cE ctE 0]))
    (hf : ∀ id, id < m → id ≠ h → rget g' id = rget g id) :
    Walk g' (E + 1) r E (k + 1) := by
  induction w with
  | here h0 hm hr =>
    exact .step h0 (by omega) hh hE0 (.here hE0 (by omega) hE)
  | @step r e h k pre' c' ct' h0 hm hr he w' ih =>
    have hne : r ≠ h := by
      intro heq
      obtain ⟨_, _, p, c2, ct2, hend⟩ := w'.end_
      rw [heq, hend] at hr
      exact he (ifE_last_inj hr).2.2.2.symm
    exact .step h0 (by omega) (by rw [hf _ hm hne]; exact hr) he (ih hh hf)

/-! ### what a region denotes -/

def Agree (g g' : Regions) (lo hi : Nat) : Prop := ∀ id, lo ≤ id → id < hi → rget g id = rget g' id

/-- the new entries decompile to `b` in every table that agrees on the newly allocated ids -/
def DenL (n : Nat) (g' : Regions) (n' : Nat) (new : List Exec) (b : Block) : Prop :=
  ∀ gg fuel, Agree gg g' n n' → n' - n ≤ fuel → mapO (dEntry (dBlock fuel gg)) new = some b

/-- what the else chain of an `<if>` denotes; the second disjunct is `DenB n g' n' E eb` written out (`DenT.frame`) -/
def DenT (g' : Regions) (n n' E : Nat) (t : Tail) : Prop :=
  (E = 0 ∧ t = .none) ∨
  (E ≠ 0 ∧ ∃ eb, t = .els eb ∧ ∀ gg fuel, Agree gg g' n n' → n' - n ≤ fuel → dBlock fuel gg E = some eb)

/-- region `rid` decompiles to `b` in every table that agrees with `g` on `[lo, hi)`; arguments as in `DenL`
(`DenT` has the table first) -/
def DenB (lo : Nat) (g : Regions) (hi rid : Nat) (b : Block) : Prop :=
  ∀ gg fuel, Agree gg g lo hi → hi - lo ≤ fuel → dBlock fuel gg rid = some b

section
variable {g g' : Regions} {lo hi lo' hi' : Nat}

theorem Agree.frame {gg : Regions} (hag : Agree gg g' lo' hi') (hlo : lo' ≤ lo)
    (hhi : hi ≤ hi') (hf : ∀ id, lo ≤ id → id < hi → rget g' id = rget g id) : Agree gg g lo hi :=
  fun id h1 h2 => by rw [hag id (by omega) (by omega), hf id h1 h2]

theorem DenL.frame {new : List Exec} {b : Block} (h : DenL lo g hi new b)
    (hlo : lo' ≤ lo) (hhi : hi ≤ hi') (hf : ∀ id, lo ≤ id → id < hi → rget g' id = rget g id) :
    DenL lo' g' hi' new b :=
  fun gg fuel hag hfuel => h gg fuel (hag.frame hlo hhi hf) (by omega)

theorem DenB.frame {rid : Nat} {b : Block} (h : DenB lo g hi rid b)
    (hlo : lo' ≤ lo) (hhi : hi ≤ hi') (hf : ∀ id, lo ≤ id → id < hi → rget g' id = rget g id) :
    DenB lo' g' hi' rid b :=
  fun gg fuel hag hfuel => h gg fuel (hag.frame hlo hhi hf) (by omega)

theorem DenT.frame {E : Nat} {t : Tail} (h : DenT g lo hi E t)
    (hlo : lo' ≤ lo) (hhi : hi ≤ hi') (hf : ∀ id, lo ≤ id → id < hi → rget g' id = rget g id) :
    DenT g' lo' hi' E t := by
  rcases h with h | ⟨hE, eb, ht, hden⟩
  · exact Or.inl h
  · exact Or.inr ⟨hE, eb, ht, DenB.frame hden hlo hhi hf⟩

theorem DenL.region {rid : Nat} {new : List Exec} {b : Block} (h : DenL (rid + 1) g hi new b)
    (hreg : rget g rid = some new) (hlo : lo ≤ rid) (hhi : rid < hi) : DenB lo g hi rid b := by
  intro gg fuel hag hfuel
  cases fuel with
  | zero => omega
  | succ f =>
    rw [dBlock, hag rid hlo hhi, hreg]
    exact h gg f (fun id h1 h2 => hag id (by omega) h2) (by omega)

theorem denL_foreach {rid : Nat} {b : Block} (hB : DenB lo g hi rid b) (a : Str) (k : Nat)
    (i x : Str) : DenL lo g hi [.foreach (.source a k) i x rid] [.foreach a i x b] := by
  intro gg fuel hag hfuel
  simp [mapO, dEntry, dData, hB gg fuel hag hfuel]

theorem denL_ite {ct E H : Nat} {b : Block} {t : Tail} (hB : DenB ct g hi ct b) (hG : Grows g g' hi hi' H)
    (hH : H < ct) (hct : ct ≤ hi) (hT : DenT g' hi hi' E t) (c : Str) (k : Nat) :
    DenL ct g' hi' [.ifE (.source c k) ct E] [.ite c b t] := by
  intro gg fuel hag hfuel
  have hb := hB.frame (Nat.le_refl _) hG.le (fun id h1 h2 => hG.old id h2 (by omega)) gg fuel hag hfuel
  rcases hT.frame hct (Nat.le_refl _) (fun _ _ _ => rfl) with ⟨rfl, rfl⟩ | ⟨hE, eb, rfl, hden⟩
  · simp [mapO, dEntry, dData, hb]
  · simp [mapO, dEntry, dData, hb, hE, hden gg fuel hag hfuel]

end

theorem dEntry_of_leaf (sub : Nat → Option Block) (e : Exec) (hl : (dLeaf e).isSome) : dEntry sub e = dLeaf e := by
  cases e <;> simp_all [dEntry, dLeaf]

end Rfsm.Reader
