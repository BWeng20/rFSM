import Rfsm.Model.ExprLexer
/-!
Progress lemmas for the lexer model: every lexer function returns a suffix of its input, and
`nextToken` consumes at least the first non-blank character, unless there is none
(`nextToken_of_eatSpace_nil`, `nextToken_of_eatSpace_cons`).
-/
namespace Rfsm.Expr

def Token.isOperator : Token → Bool
  | .operator _ => true
  | _ => false

def Token.isError : Token → Bool
  | .error _ => true
  | _ => false

def Token.isEoe : Token → Bool
  | .eoe => true
  | _ => false

def Token.isStopSep (stops : List Ch) : Token → Bool
  | .separator c => stops.contains c
  | _ => false

theorem eatSpace_suffix (s : Str) : eatSpace s <:+ s := by
  fun_induction eatSpace s <;> simp [List.suffix_cons_iff, *]

theorem readString_suffix (d : Ch) (m : SMode) (s acc : Str) : (readString d m s acc).2 <:+ s := by
  fun_induction readString d m s acc <;> simp [List.suffix_cons_iff, *]

theorem readNumber_suffix (st : Nat) (s acc : Str) : (readNumber st s acc).2 <:+ s := by
  fun_induction readNumber st s acc <;> simp_all +zetaDelta [List.suffix_cons_iff]

/-- the call `read_number(c)` of `next_token_with_stop` consumes `c` -/
theorem readNumber_start (c : Ch) (rest : Str)
    (h : (isDigit c || c == 45 || c == 43 || c == 46) = true) :
    (readNumber 0 (c :: rest) []).2 <:+ rest := by
  rw [readNumber]
  simp only [Bool.or_eq_true, beq_iff_eq] at h
  -- state 0: after `.`, a digit or `-` the loop goes on behind `c`, `+` is delivered at once
  rcases h with ((h | rfl) | rfl) | rfl
  · have : c ≠ 46 := by rintro rfl; simp [isDigit] at h
    simp [h, this, readNumber_suffix]
  · simp [isDigit, readNumber_suffix]
  · simp [isDigit]
  · simp [readNumber_suffix]

theorem opSingle_snd (first : Ch) (back : Str) : (opSingle first back).2 = back := by
  fun_cases opSingle first back <;> rfl

theorem opDouble_snd (first : Ch) (back : Str) : (opDouble first back).2 = back := by
  fun_cases opDouble first back <;> rfl

/-- `read_operator` consumes `first`, also at the very end of the input (where it used to un-read
it, and `<`, `>`, `=`, `!` as the last character were delivered for ever) -/
theorem readOperator_suffix (first : Ch) (rest : Str) : (readOperator first rest).2 <:+ rest := by
  fun_cases readOperator first rest <;> simp [opSingle_snd, opDouble_snd, List.suffix_cons_iff]

theorem stopToken_suffix (stops : List Ch) (c : Ch) (rest : Str) :
    (stopToken stops c rest).2 <:+ rest := by
  fun_cases stopToken stops c rest <;> simp [readString_suffix, readOperator_suffix]

theorem readWord_suffix (stops : List Ch) (s acc : Str) : (readWord stops s acc).2 <:+ s := by
  fun_induction readWord stops s acc <;> (try split) <;>
    simp [List.suffix_cons_iff, stopToken_suffix, *]

/-- an exhausted input yields the end token (the NUL separator when NUL is a stop) and stays
exhausted -/
theorem nextToken_of_eatSpace_nil (stops : List Ch) {inp : Str} (h : eatSpace inp = []) :
    nextToken stops inp = (if stops.contains 0 then .separator 0 else .eoe, []) := by
  simp only [nextToken, h, readWord, List.isEmpty_nil, if_true]
  split <;> rfl

theorem nextToken_of_eatSpace_cons (stops : List Ch) {inp : Str} {c : Ch} {rest : Str}
    (h : eatSpace inp = c :: rest) : (nextToken stops inp).2 <:+ rest := by
  simp only [nextToken, h]
  split
  · exact readNumber_start c rest ‹_›
  · rw [readWord]
    split
    · exact stopToken_suffix stops c rest
    · exact readWord_suffix stops rest [c]

theorem nextToken_suffix (stops : List Ch) (inp : Str) : (nextToken stops inp).2 <:+ inp := by
  cases h : eatSpace inp with
  | nil => simp [nextToken_of_eatSpace_nil stops h]
  | cons c rest =>
    exact (nextToken_of_eatSpace_cons stops h).trans
      ((List.suffix_cons c rest).trans (h ▸ eatSpace_suffix inp))

/-- every token consumes input, except the end token of an exhausted input -/
theorem nextToken_progress (stops : List Ch) (inp : Str) :
    (nextToken stops inp).2.length < inp.length ∨ (nextToken stops inp).1 = .eoe ∨
    ((nextToken stops inp).1 = .separator 0 ∧ stops.contains 0 = true) := by
  cases h : eatSpace inp with
  | nil =>
    rw [nextToken_of_eatSpace_nil stops h]
    cases hs : stops.contains 0 <;> simp
  | cons c rest =>
    have h1 := (nextToken_of_eatSpace_cons stops h).length_le
    have h2 := (eatSpace_suffix inp).length_le
    rw [h, List.length_cons] at h2
    exact Or.inl (by omega)

theorem eatSpace_append_ws (ws inp : Str) (h : ∀ c ∈ ws, isWhitespace c = true) :
    eatSpace (ws ++ inp) = eatSpace inp := by
  induction ws with
  | nil => rfl
  | cons c rest ih =>
    have hc := h c List.mem_cons_self
    simp only [List.cons_append, eatSpace, hc, if_true]
    exact ih (fun x hx => h x (List.mem_cons_of_mem _ hx))

end Rfsm.Expr
