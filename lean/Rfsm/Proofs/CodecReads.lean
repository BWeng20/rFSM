import Rfsm.Proofs.CodecPrim
/-!
`Reads p bytes x`: reader program `p`, started in a good state on `bytes ++ rest`, returns `x`, leaves
exactly `rest`, stays good.  Composition rules, the primitive calls, repetition.
-/
namespace Rfsm.Codec

@[simp] theorem run_pure {α} (a : α) (st : RState) : (Pure.pure a : Prog α).run st = (a, st) := rfl

@[simp] theorem run_bind {α β} (p : Prog α) (f : α → Prog β) (st : RState) :
    (p >>= f).run st = (f (p.run st).1).run (p.run st).2 := rfl

@[simp] theorem run_prim {α} (p : Prim α) (st : RState) : (Prog.prim p).run st = p.run st := rfl

/-- for all `t n`: `type_id` and `number` are scratch fields that survive from call to call.  `pn` comes
back as it went in, `none` included: no `panic!` site is reached. -/
def Reads {α} (p : Prog α) (bytes : List Nat) (x : α) : Prop :=
  ∀ (rest : List Nat) (t n : Nat) (pn : Option Site),
    ∃ t' n', p.run ⟨bytes ++ rest, true, t, n, pn⟩ = (x, ⟨rest, true, t', n', pn⟩)

theorem Reads.pure {α} (a : α) : Reads (Pure.pure a : Prog α) [] a := fun _ t n _ => ⟨t, n, rfl⟩

theorem Reads.bind {α β} {p : Prog α} {f : α → Prog β} {b1 b2 : List Nat} {a : α} {y : β}
    (hp : Reads p b1 a) (hf : Reads (f a) b2 y) : Reads (p >>= f) (b1 ++ b2) y := by
  intro rest t n pn
  obtain ⟨t1, n1, h1⟩ := hp (b2 ++ rest) t n pn
  obtain ⟨t2, n2, h2⟩ := hf rest t1 n1 pn
  refine ⟨t2, n2, ?_⟩
  rw [run_bind, List.append_assoc, h1]
  exact h2

/-- last step of a `do` block: what follows `p` reads nothing -/
theorem Reads.bind_last {α β} {p : Prog α} {f : α → Prog β} {b : List Nat} {a : α} {y : β}
    (hp : Reads p b a) (hf : Reads (f a) [] y) : Reads (p >>= f) b y := by
  simpa using Reads.bind hp hf

/-- `p >>= fun a => pure (g a)` -/
theorem Reads.bind_pure {α β} {p : Prog α} {f : α → Prog β} {b : List Nat} {a : α} {y : β}
    (hp : Reads p b a) (hf : f a = Pure.pure y) : Reads (p >>= f) b y :=
  Reads.bind_last hp (hf ▸ Reads.pure y)

/-- brings `bytesOf (ops of a structure)` into the form `b₁ ++ (b₂ ++ (… ++ bₙ))`, one `bᵢ` per field, which
is how a chain of `Reads.bind` nests -/
macro "norm_bytes" : tactic =>
  `(tactic| simp only [bytesOf_append, bytesOf_cons, bytesOf_nil, List.append_assoc, List.append_nil,
      List.nil_append, List.cons_append])

theorem Reads.uint (v : Nat) (hv : v < 2 ^ 64) : Reads pUInt (uintOp v).bytes v := fun rest t n pn =>
  (readUInt_roundtrip v hv rest t n pn).imp fun _ h => ⟨v, h⟩

theorem Reads.str (s : Str) (h : s.length < 2 ^ 64) (hu : validUtf8 s = true) :
    Reads pStr (Op.str s).bytes s := fun rest t n pn =>
  ⟨strTid s, 0, readString_roundtrip s h hu rest t n pn⟩

theorem Reads.bool (b : Bool) : Reads pBool (boolOp b).bytes b := fun rest t n pn =>
  ⟨t, n, readBool_roundtrip b rest t n pn⟩

/-- `has_error()` in a good state reads nothing and answers `false` -/
theorem Reads.hasError {β} {f : Bool → Prog β} {b : List Nat} {y : β} (h : Reads (f false) b y) :
    Reads (pHasError >>= f) b y := h

/-- `read_u8`, `read_u16` and the id readers are `read_uint() as uN` -/
theorem Reads.umod {m v : Nat} (hm : m ≤ 2 ^ 64) (hv : v < m) :
    Reads (pUInt >>= fun u => Pure.pure (u % m)) (uintOp v).bytes v :=
  Reads.bind_pure (Reads.uint v (by omega)) (by simp [Nat.mod_eq_of_lt hv])

theorem Reads.u8 (v : Nat) (hv : v < 256) : Reads pU8 (uintOp v).bytes v := Reads.umod (by decide) hv

theorem Reads.u16 (v : Nat) (hv : v < 65536) : Reads pU16 (uintOp v).bytes v := Reads.umod (by decide) hv

/-- one more round of `for _ in 0..n { v.push(p) }` -/
theorem Reads.cons {α} {p : Prog α} {b1 b2 : List Nat} {a : α} {l : List α}
    (ha : Reads p b1 a) (hl : Reads (readN l.length p) b2 l) :
    Reads (readN (a :: l).length p) (b1 ++ b2) (a :: l) :=
  Reads.bind ha (Reads.bind_pure hl rfl)

theorem Reads.rep {α} {p : Prog α} {enc : α → List Nat} (l : List α)
    (h : ∀ a ∈ l, Reads p (enc a) a) : Reads (readN l.length p) (l.flatMap enc) l := by
  induction l with
  | nil => exact Reads.pure []
  | cons a l ih =>
    rw [List.flatMap_cons]
    exact Reads.cons (h a (by simp)) (ih (fun b hb => h b (by simp [hb])))

end Rfsm.Codec
