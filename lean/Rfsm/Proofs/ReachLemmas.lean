import Rfsm.Proofs.ExtLemmas
/-!
Reachable sessions: an inductive over-approximation of the sessions the event loop of `interpret`
passes through, closed under every operation the loop performs, and the proof that the loops stay inside
it.  Invariants are then proved through `Reach.inv`.
-/
namespace Rfsm.Interp

variable {σ : Type}

/-- the transition list `interpret` hands to the first `enterStates` -/
def rootInit (d : Doc) : List Nat :=
  if (getState d d.root).initial != 0 then [(getState d d.root).initial] else []

/-- `same` forgets everything but `cfg` and `hv`, so `Reach.inv` carries predicates of these two only
    (an invariant on another field is stated per microstep: `C14_toInvoke_subset_cfg`). -/
inductive Reach (env : Env σ) (d : Doc) : Sess σ → Prop
  /-- start-up: the initial configuration entered from an empty one -/
  | start (s0 : Sess σ) (hc : s0.cfg = []) (hh : s0.hv = []) : Reach env d (enterStates env d s0 (rootInit d))
  /-- anything that leaves configuration and history alone (dequeuing, `_event`, finalize content,
      invoke bookkeeping, the cancel event setting `running := false`, …) -/
  | same {s s' : Sess σ} : Reach env d s → s'.cfg = s.cfg → s'.hv = s.hv → Reach env d s'
  /-- a microstep with the transitions selected for some event (or eventless) -/
  | micro {s : Sess σ} (ev : Option Descriptor.Str) : Reach env d s →
      Reach env d (microstep env d (select env d ev s).1 (select env d ev s).2)

theorem reach_of_kept {env : Env σ} {d : Doc} {s s' : Sess σ} (h : Reach env d s) (k : Kept s s') :
    Reach env d s' := Reach.same h k.cfg k.hv

/-- A property of configuration and history table that start-up establishes and every microstep
    preserves — whatever transitions it takes — holds in every reachable session. -/
theorem Reach.inv {env : Env σ} {d : Doc} (P : List Nat → Table → Prop)
    (start : ∀ s0 : Sess σ, s0.cfg = [] → s0.hv = [] →
      P (enterStates env d s0 (rootInit d)).cfg (enterStates env d s0 (rootInit d)).hv)
    (micro : ∀ (s : Sess σ) (ts : List Nat), Reach env d s → P s.cfg s.hv →
      P (microstep env d s ts).cfg (microstep env d s ts).hv)
    {s : Sess σ} (h : Reach env d s) : P s.cfg s.hv := by
  induction h with
  | start s0 hc hh => exact start s0 hc hh
  | same _ hc hh ih => rw [hc, hh]; exact ih
  | @micro s ev hr ih =>
    have k := (select_absorbs env d ev s).kept
    exact micro _ _ (.same hr k.cfg k.hv) (by rw [k.cfg, k.hv]; exact ih)

/-- one round of `macroLoop`, with the results of the selections as projections -/
theorem macroLoop_succ (env : Env σ) (d : Doc) (f : Nat) (s : Sess σ) :
    macroLoop env d (f + 1) s =
      if !s.running then some s else
      let r := select env d none s
      if r.2.isEmpty then
        match r.1.iq with
        | [] => some r.1
        | e :: rest =>
          let r2 := select env d (some e.name)
            { r.1 with iq := rest, dm := env.setEvent r.1.dm e, trace := r.1.trace ++ [.int e.name] }
          if r2.2.isEmpty then macroLoop env d f r2.1 else macroLoop env d f (microstep env d r2.1 r2.2)
      else macroLoop env d f (microstep env d r.1 r.2) := by
  rw [macroLoop]
  rfl

theorem reach_select {env : Env σ} {d : Doc} {s s1 : Sess σ} {ev : Option Descriptor.Str} {ts : List Nat}
    (e : select env d ev s = (s1, ts)) (h : Reach env d s) :
    Reach env d s1 ∧ Reach env d (microstep env d s1 ts) := by
  have h1 := reach_of_kept h (select_absorbs env d ev s).kept
  have h2 := Reach.micro ev h
  rw [e] at h1 h2
  exact ⟨h1, h2⟩

theorem macroLoop_reach (env : Env σ) (d : Doc) (f : Nat) (s s' : Sess σ)
    (hr : Reach env d s) (h : macroLoop env d f s = some s') : Reach env d s' := by
  -- one case per leaf of `macroLoop`; `hs`, `hs2` are its two selections as equations
  -- `select … = (s1, ts)`, and dequeuing the internal event in between is a `Reach.same` step.
  -- Cases 4, 5 bind: hs, `ts.isEmpty`, e, rest, `s1.iq = e :: rest`, the dequeued session, s2, ts2, hs2,
  -- `ts2.isEmpty` or its negation, ih
  fun_induction macroLoop env d f s
  case case1 => cases h
  case case2 => cases h; exact hr
  case case3 hs _ _ => cases h; exact (reach_select hs hr).1
  case case4 hs _ _ _ _ _ _ _ hs2 _ ih =>
    exact ih (reach_select hs2 (.same (reach_select hs hr).1 rfl rfl)).1 h
  case case5 hs _ _ _ _ _ _ _ hs2 _ ih =>
    exact ih (reach_select hs2 (.same (reach_select hs hr).1 rfl rfl)).2 h
  case case6 hs _ ih => exact ih (reach_select hs hr).2 h

theorem runInvokes_reach (env : Env σ) (d : Doc) (s : Sess σ) (h : Reach env d s) :
    Reach env d (runInvokes env d s) :=
  .same (reach_of_kept h (foldl_rel Kept.refl Kept.trans (invokeState_kept env d) _ s)) rfl rfl

theorem processExternal_reach (env : Env σ) (d : Doc) (s : Sess σ) (e : Event) (h : Reach env d s) :
    Reach env d (processExternal env d s e) := by
  have h1 := reach_of_kept h (preExternal_kept env d s e)
  unfold processExternal
  simp only
  split
  · exact reach_of_kept h1 (select_absorbs env d _ _).kept
  · exact .micro (some e.name) h1

theorem handleExternal_reach (env : Env σ) (d : Doc) (s : Sess σ) (e : Event) (h : Reach env d s) :
    Reach env d (handleExternal env d s e) := by
  unfold handleExternal
  split
  · exact .same h rfl rfl
  · exact processExternal_reach env d s e h

theorem mainLoop_reach (env : Env σ) (d : Doc) (c : Descriptor.Str) (m f : Nat)
    (s : Sess σ) (feed : List (List Event)) (r : Sess σ × Bool) (hr : Reach env d s)
    (h : mainLoop env d c m f s feed = some r) : Reach env d r.1 := by
  -- the end of a round: invoke, then block on the external queue
  have await : ∀ {s0 s1 s2 : Sess σ} {feed x}, Reach env d s0 → macroLoop env d m s0 = some s1 →
      awaitExternal c ((runInvokes env d s1).emit [.idle]) feed = (s2, x) → Reach env d s2 := by
    intro s0 s1 s2 feed x h0 hm e
    have k := awaitExternal_kept c ((runInvokes env d s1).emit [.idle]) feed
    rw [e] at k
    exact reach_of_kept (runInvokes_reach env d s1 (macroLoop_reach env d m s0 s1 h0 hm))
      ((absorbs_emit _ [.idle]).kept.trans k)
  -- one case per leaf of `mainLoop`; `hm : macroLoop … = some s1`, `ha : awaitExternal … = (s2, …)`.
  -- After `hm`: `s1` runs, `runInvokes … s1`, the test of its queue; cases 6, 7: the 2 resp. 3
  -- components of what `awaitExternal` returns, then `ha`
  fun_induction mainLoop env d c m f s feed
  case case1 => cases h
  case case2 => cases h; exact hr
  case case3 => cases h
  case case4 hm _ => cases h; exact macroLoop_reach env d m _ _ hr hm
  case case5 hm _ _ _ ih => exact ih (runInvokes_reach env d _ (macroLoop_reach env d m _ _ hr hm)) h
  case case6 hm _ _ _ _ _ ha => cases h; exact await hr hm ha
  case case7 hm _ _ _ _ _ _ ha ih => exact ih (handleExternal_reach env d _ _ (await hr hm ha)) h

theorem startSession_reach (env : Env σ) (d : Doc) (dm0 : σ) : Reach env d (startSession env d dm0) :=
  have k := (initSession_absorbs env d dm0).kept
  .start (initSession env d dm0) k.cfg k.hv

theorem run_reach (env : Env σ) (d : Doc) (c : Descriptor.Str) (m f : Nat) (dm0 : σ)
    (feed : List (List Event)) (r : Sess σ × Bool)
    (h : mainLoop env d c m f (startSession env d dm0) feed = some r) : Reach env d r.1 :=
  mainLoop_reach env d c m f _ feed r (startSession_reach env d dm0) h

end Rfsm.Interp
