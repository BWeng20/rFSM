import Rfsm.Model.Route
import Rfsm.Proofs.Decimal
/-!
Lemmas for C15 and the `<send>` part of C12.  For ALL target texts `routeSend_cases` / `execSend_cases` say that a
call does one of four things; the statements about every send (no panic, one enqueue, what a failed send leaves
behind) are read off these two.
-/
namespace Rfsm.Route

/-! ## decimal: `showNat` and `digitsVal` are the functions of `Rfsm.Decimal` -/

theorem showNat_eq (n : Nat) : showNat n = Decimal.digits n n := by
  have : ∀ f n, showNatAux f n = Decimal.digits f n := fun f => by
    induction f with
    | zero => exact fun _ => rfl
    | succ f ih => intro n; simp only [showNatAux, Decimal.digits, ih]
  exact this n n

theorem digitsVal_eq (s : Str) (acc : Nat) : digitsVal s acc = Decimal.value acc s := by
  induction s generalizing acc with
  | nil => rfl
  | cons c cs ih => simp only [digitsVal, Decimal.value, ih]

theorem digitsVal_showNat (n : Nat) : digitsVal (showNat n) 0 = some n := by
  rw [digitsVal_eq, showNat_eq, Decimal.value_digits (Nat.le_refl n)]

theorem showNat_injective {n m : Nat} (h : showNat n = showNat m) : n = m :=
  Decimal.digits_injective (showNat_eq n ▸ showNat_eq m ▸ h)

theorem showNat_digits (n : Nat) : ∀ c ∈ showNat n, 48 ≤ c ∧ c ≤ 57 :=
  showNat_eq n ▸ Decimal.digits_isDigit n n

theorem showNat_ne_nil (n : Nat) : showNat n ≠ [] := showNat_eq n ▸ Decimal.digits_ne_nil n n

/-- `parse::<u32>` reads back what `to_string` wrote -/
theorem parseU32_showNat (n : Nat) (h : n < 4294967296) : parseU32 (showNat n) = some n := by
  have hd := showNat_digits n
  have hv := digitsVal_showNat n
  cases hs : showNat n with
  | nil => exact absurd hs (showNat_ne_nil n)
  | cons c cs =>
    rw [hs] at hd hv
    have hc := hd c (by simp)
    have h43 : c ≠ 43 := by omega
    have h45 : c ≠ 45 := by omega
    simp [parseU32, h43, h45, hv, h]

/-! ## the session table -/

section World
variable {δ : Type}

theorem lookup_modify (w : World δ) (sid sid' : Nat) (f : Session δ → Session δ)
    (hf : ∀ s, (f s).sid = s.sid) :
    lookup (modify w sid f) sid' = (lookup w sid').map (fun s => if s.sid = sid then f s else s) := by
  have : ((fun s : Session δ => s.sid == sid') ∘ fun s => if s.sid = sid then f s else s) =
      fun s => s.sid == sid' := by
    funext s
    simp only [Function.comp]
    split <;> simp [hf]
  rw [lookup, modify, List.find?_map, this, lookup]

/-- number of events in all queues of all sessions -/
def queued (w : World δ) : Nat := (w.map fun s => s.extQ.length + s.intQ.length).sum

theorem modify_absent (w : World δ) (sid : Nat) (f : Session δ → Session δ)
    (h : ∀ s ∈ w, s.sid ≠ sid) : modify w sid f = w :=
  (List.map_congr_left fun s hs => if_neg (h s hs)).trans (List.map_id' w)

theorem lookup_some_mem {w : World δ} {sid : Nat} {T : Session δ} (h : lookup w sid = some T) :
    T ∈ w ∧ T.sid = sid := by
  unfold lookup at h
  exact ⟨List.mem_of_find?_eq_some h, by simpa using List.find?_some h⟩

theorem queued_modify (w : World δ) (sid : Nat) (f : Session δ → Session δ) (T : Session δ)
    (hnd : (w.map (·.sid)).Nodup) (hl : lookup w sid = some T)
    (hf : ∀ s, (f s).extQ.length + (f s).intQ.length = s.extQ.length + s.intQ.length + 1) :
    queued (modify w sid f) = queued w + 1 := by
  induction w with
  | nil => simp [lookup] at hl
  | cons s r ih =>
    simp only [List.map_cons, List.nodup_cons] at hnd
    by_cases hs : s.sid = sid
    · -- the ids are distinct: nothing else is modified
      have : modify r sid f = r := modify_absent r sid f fun x hx hxs =>
        hnd.1 (List.mem_map.2 ⟨x, hx, hxs.trans hs.symm⟩)
      simp only [queued, modify, List.map_cons, if_pos hs, List.sum_cons, hf] at this ⊢
      rw [this]
      omega
    · have hl' : lookup r sid = some T := by simpa [lookup, List.find?_cons, hs] using hl
      have := ih hnd.2 hl'
      simp only [queued, modify, List.map_cons, if_neg hs, List.sum_cons] at this ⊢
      omega

theorem queued_enqExt (w : World δ) (sid : Nat) (ev : Event δ) (T : Session δ)
    (hnd : (w.map (·.sid)).Nodup) (hl : lookup w sid = some T) :
    queued (enqExt w sid ev) = queued w + 1 :=
  queued_modify w sid _ T hnd hl (by intro s; simp; omega)

theorem queued_enqInt (w : World δ) (sid : Nat) (ev : Event δ) (T : Session δ)
    (hnd : (w.map (·.sid)).Nodup) (hl : lookup w sid = some T) :
    queued (enqInt w sid ev) = queued w + 1 :=
  queued_modify w sid _ T hnd hl (by intro s; simp; omega)

end World

/-! ## the router -/

section Send
variable {δ : Type}

theorem extQ_enqInt (w : World δ) (q sid : Nat) (e : Event δ) :
    (lookup (enqInt w q e) sid).map (·.extQ) = (lookup w sid).map (·.extQ) := by
  rw [enqInt, lookup_modify]
  · cases lookup w sid with
    | none => rfl
    | some s => simp only [Option.map_some]; split <;> rfl
  · exact fun _ => rfl

theorem sendToSession_ok {w : World δ} {sid : Nat} {T : Session δ} (sender : Nat) (ev : Event δ)
    (hl : lookup w sid = some T) (hd : T.receiverDropped = false) :
    sendToSession w sender sid ev = .done (enqExt w sid ev) true := by
  simp [sendToSession, hl, hd]

theorem sendToSession_unknown {w : World δ} {sid : Nat} (sender : Nat) (ev : Event δ)
    (hl : lookup w sid = none) :
    sendToSession w sender sid ev = .done (enqInt w sender (errorCommunication ev)) false := by
  simp [sendToSession, hl]

theorem sendToSession_cases (w : World δ) (sender sid : Nat) (ev : Event δ) :
    (∃ T, lookup w sid = some T ∧ sendToSession w sender sid ev = .done (enqExt w sid ev) true) ∨
    sendToSession w sender sid ev = .done (enqInt w sender (errorCommunication ev)) false := by
  unfold sendToSession
  cases lookup w sid with
  | none => exact Or.inr rfl
  | some T => cases hd : T.receiverDropped <;> simp

theorem routeSend_nil (w : World δ) (S : Session δ) (ev : Event δ) :
    routeSend w S [] ev = .done (enqExt w S.sid (stamp S.sid ev)) true := by
  simp [routeSend]

theorem routeSend_internal (w : World δ) (S : Session δ) (ev : Event δ) :
    routeSend w S tInternal ev =
      .done (enqInt w S.sid { stamp S.sid ev with etype := .internal }) true := by
  simp [routeSend, tInternal]

theorem routeSend_parent (w : World δ) (S : Session δ) (ev : Event δ) :
    routeSend w S tParent ev =
      match S.parent with
      | none => .done (enqInt w S.sid (errorCommunication (stamp S.sid ev))) false
      | some p => sendToSession w S.sid p (stamp S.sid ev) := by
  simp only [routeSend, show tParent ≠ [] by decide, show tParent ≠ tInternal by decide, if_false,
    if_true]
  cases S.parent <;> rfl

theorem routeSend_session (w : World δ) (S : Session δ) (t : Str) (ev : Event δ) :
    routeSend w S (pfxSession ++ t) ev =
      match parseU32 t with
      | some sid => sendToSession w S.sid sid (stamp S.sid ev)
      | none => .done (enqInt w S.sid (errorCommunication (stamp S.sid ev))) false := by
  have h1 : pfxSession ++ t ≠ [] := by simp [pfxSession]
  have h2 : pfxSession ++ t ≠ tInternal := by simp [pfxSession, tInternal]
  have h3 : pfxSession ++ t ≠ tParent := by simp [pfxSession, tParent]
  have h4 : pfxSession.isPrefixOf (pfxSession ++ t) = true := by simp [List.isPrefixOf_iff_prefix]
  have h5 : (pfxSession ++ t).drop pfxSession.length = t := by simp
  simp only [routeSend, h1, h2, h3, h4, h5, if_false, if_true]
  cases parseU32 t <;> rfl

theorem routeSend_location (w : World δ) (S : Session δ) {n : Nat} (hn : n < 4294967296)
    (ev : Event δ) :
    routeSend w S (location n) ev = sendToSession w S.sid n (stamp S.sid ev) := by
  rw [location, routeSend_session, parseU32_showNat n hn]

theorem routeSend_registered (w : World δ) (S : Session δ) {n : Nat} {T : Session δ} (ev : Event δ)
    (hn : n < 4294967296) (hl : lookup w n = some T) (hd : T.receiverDropped = false) :
    routeSend w S (location n) ev = .done (enqExt w n (stamp S.sid ev)) true := by
  rw [routeSend_location w S hn, sendToSession_ok _ _ hl hd]

theorem routeSend_invoke (w : World δ) (S : Session δ) {inv : Str} (ev : Event δ)
    (hi : inv ≠ tInternal.drop 2) (hp : inv ≠ tParent.drop 2)
    (hs : (pfxSession.drop 2).isPrefixOf inv = false) :
    routeSend w S (pfxInvoke ++ inv) ev =
      match S.children.lookup inv with
      | none => .done (enqInt w S.sid (errorCommunication (stamp S.sid ev))) false
      | some c => sendToSession w S.sid c (stamp S.sid ev) := by
  have h1 : pfxInvoke ++ inv ≠ [] := by simp [pfxInvoke]
  have h2 : pfxInvoke ++ inv ≠ tInternal := fun h =>
    hi (by simpa [pfxInvoke] using congrArg (List.drop 2) h)
  have h3 : pfxInvoke ++ inv ≠ tParent := fun h =>
    hp (by simpa [pfxInvoke] using congrArg (List.drop 2) h)
  have h4 : pfxSession.isPrefixOf (pfxInvoke ++ inv) = false := by
    simpa [pfxInvoke, pfxSession, List.isPrefixOf] using hs
  have h5 : pfxInvoke.isPrefixOf (pfxInvoke ++ inv) = true := by simp [List.isPrefixOf_iff_prefix]
  have h6 : (pfxInvoke ++ inv).drop pfxInvoke.length = inv := by simp
  simp only [routeSend, h1, h2, h3, h4, h5, h6, if_false, if_true, Bool.false_eq_true]
  cases S.children.lookup inv <;> rfl

theorem routeSend_other (w : World δ) (S : Session δ) {t : Str} (ev : Event δ)
    (ht : t ≠ []) (hp : pfxInvoke.isPrefixOf t = false) :
    routeSend w S t ev = .done (enqInt w S.sid (errorExecution ev.sendid ev.invokeId)) false := by
  have h1 : t ≠ tInternal := by rintro rfl; simp [pfxInvoke, tInternal] at hp
  have h2 : t ≠ tParent := by rintro rfl; simp [pfxInvoke, tParent] at hp
  have h3 : pfxSession.isPrefixOf t = false := by
    cases hq : pfxSession.isPrefixOf t with
    | false => rfl
    | true =>
      obtain ⟨r, rfl⟩ := List.isPrefixOf_iff_prefix.1 hq
      simp [pfxInvoke, pfxSession] at hp
  simp only [routeSend, ht, h1, h2, h3, hp, if_false, Bool.false_eq_true]
  rfl

theorem routeSend_cases (w : World δ) (S : Session δ) (target : Str) (ev : Event δ) :
    routeSend w S target ev = .done (enqExt w S.sid (stamp S.sid ev)) true ∨
    routeSend w S target ev = .done (enqInt w S.sid { stamp S.sid ev with etype := .internal }) true ∨
    (∃ sid T, lookup w sid = some T ∧
      routeSend w S target ev = .done (enqExt w sid (stamp S.sid ev)) true) ∨
    (∃ e, (e = errorCommunication (stamp S.sid ev) ∨ e = errorExecution ev.sendid ev.invokeId) ∧
      routeSend w S target ev = .done (enqInt w S.sid e) false) := by
  unfold routeSend
  simp only
  -- `by_cases` and `if_pos`/`if_neg` down the chain of tests (`split` is ten times dearer here)
  by_cases h1 : target = []
  · rw [if_pos h1]; exact Or.inl rfl
  rw [if_neg h1]
  by_cases h2 : target = tInternal
  · rw [if_pos h2]; exact Or.inr (Or.inl rfl)
  rw [if_neg h2]
  refine Or.inr (Or.inr ?_)
  have hsess : ∀ sid, (∃ sid' T, lookup w sid' = some T ∧
        sendToSession w S.sid sid (stamp S.sid ev) = .done (enqExt w sid' (stamp S.sid ev)) true) ∨
      ∃ e, (e = errorCommunication (stamp S.sid ev) ∨ e = errorExecution ev.sendid ev.invokeId) ∧
        sendToSession w S.sid sid (stamp S.sid ev) = .done (enqInt w S.sid e) false := fun sid =>
    (sendToSession_cases w S.sid sid _).imp (fun ⟨T, hT, h⟩ => ⟨sid, T, hT, h⟩)
      (fun h => ⟨_, Or.inl rfl, h⟩)
  by_cases h3 : target = tParent
  · rw [if_pos h3]
    cases S.parent with
    | none => exact Or.inr ⟨_, Or.inl rfl, rfl⟩
    | some p => exact hsess p
  rw [if_neg h3]
  by_cases h4 : pfxSession.isPrefixOf target = true
  · rw [if_pos h4]
    cases parseU32 (target.drop pfxSession.length) with
    | none => exact Or.inr ⟨_, Or.inl rfl, rfl⟩
    | some p => exact hsess p
  rw [if_neg h4]
  by_cases h5 : pfxInvoke.isPrefixOf target = true
  · rw [if_pos h5]
    cases S.children.lookup (target.drop pfxInvoke.length) with
    | none => exact Or.inr ⟨_, Or.inl rfl, rfl⟩
    | some p => exact hsess p
  · rw [if_neg h5]; exact Or.inr ⟨_, Or.inr rfl, rfl⟩

theorem routeSend_done (w : World δ) (S : Session δ) (target : Str) (ev : Event δ) :
    ∃ w' ok, routeSend w S target ev = .done w' ok := by
  rcases routeSend_cases w S target ev with h | h | ⟨_, _, _, h⟩ | ⟨_, _, h⟩ <;> exact ⟨_, _, h⟩

/-- what a failing `routeSend` does: ONE error event on the sender's internal queue, nothing else -/
theorem routeSend_fail {w w' : World δ} {S : Session δ} {target : Str} {ev : Event δ}
    (h : routeSend w S target ev = .done w' false) :
    ∃ e, (e = errorCommunication (stamp S.sid ev) ∨ e = errorExecution ev.sendid ev.invokeId) ∧
      w' = enqInt w S.sid e := by
  rcases routeSend_cases w S target ev with h' | h' | ⟨_, _, _, h'⟩ | ⟨e, he, h'⟩ <;>
    cases h'.symm.trans h
  exact ⟨e, he, rfl⟩

/-- `SendParameters::execute`, whatever the send element: an `error.execution` without routing, a
timer, or the processor's verdict (with a second error event after a failed routing) -/
theorem execSend_cases (w : World δ) (ctr : Nat) (S : Session δ) (sp : SendSpec δ) :
    execSend w ctr S sp =
        .done (enqInt w S.sid (errorExecution (sendId sp ctr).1 S.caller)) (sendId sp ctr).2 false ∨
    execSend w ctr S sp = .scheduled (sendId sp ctr).2 ∨
    (∃ w', routeSend w S sp.target (buildEvent S sp (sendId sp ctr).1) = .done w' true ∧
      execSend w ctr S sp = .done w' (sendId sp ctr).2 true) ∨
    (∃ w', routeSend w S sp.target (buildEvent S sp (sendId sp ctr).1) = .done w' false ∧
      execSend w ctr S sp =
        .done (enqInt w' S.sid (errorExecution (sendId sp ctr).1 S.caller)) (sendId sp ctr).2 false) := by
  obtain ⟨w1, ok, hr⟩ := routeSend_done w S sp.target (buildEvent S sp (sendId sp ctr).1)
  unfold execSend
  simp only [hr]
  generalize (if sp.type = [] then procUrl else sp.type) = ty
  generalize sendId sp ctr = ic
  by_cases h1 : sp.delayMs < 0
  · rw [if_pos h1]; exact Or.inl rfl
  rw [if_neg h1]
  by_cases h2 : sp.delayMs > 0 ∧ sp.target = tInternal
  · rw [if_pos h2]; exact Or.inl rfl
  rw [if_neg h2]
  by_cases h3 : sp.delayMs > 0
  · rw [if_pos h3]
    by_cases h4 : procTypes.contains ty = true
    · rw [if_pos h4]; exact Or.inr (Or.inl rfl)
    · rw [if_neg h4]; exact Or.inl rfl
  rw [if_neg h3]
  by_cases h4 : procTypes.contains ty = true
  · rw [if_pos h4]
    cases ok
    · exact Or.inr (Or.inr (Or.inr ⟨_, rfl, rfl⟩))
    · exact Or.inr (Or.inr (Or.inl ⟨_, rfl, rfl⟩))
  · rw [if_neg h4]; exact Or.inl rfl

end Send

/-! ## counters and generated ids -/

theorem runCounter_values (c : Nat) (sched : List Nat) (h : c + sched.length ≤ 4294967296) :
    (runCounter c sched).1.map Prod.snd = List.range' c sched.length := by
  induction sched generalizing c with
  | nil => rfl
  | cons t ts ih =>
    simp only [runCounter, fetchAdd, List.map_cons, List.length_cons, List.range'_succ]
    congr 1
    -- the counter wraps only after the last value that fits has been handed out
    cases ts with
    | nil => rfl
    | cons u us =>
      simp only [List.length_cons] at h
      rw [Nat.mod_eq_of_lt (by omega)]
      exact ih (c + 1) (by simp only [List.length_cons]; omega)

theorem runCounter_threads (c : Nat) (sched : List Nat) :
    (runCounter c sched).1.map Prod.fst = sched := by
  induction sched generalizing c with
  | nil => rfl
  | cons t ts ih => simp [runCounter, ih]

/-- a generated id determines its platform id, whatever the state names: the digits after the
last `.` -/
theorem genId_injective {st1 st2 : Str} {n m : Nat} (h : genId st1 n = genId st2 m) : n = m := by
  have key : ∀ (st : Str) (k : Nat),
      (genId st k).reverse.takeWhile (· != 46) = (showNat k).reverse := fun st k => by
    have hd : ∀ c ∈ (showNat k).reverse, (c != 46) = true := fun c hc => by
      have := showNat_digits k c (List.mem_reverse.1 hc)
      simp; omega
    simp [genId, List.takeWhile_append_of_pos hd]
  have := key st1 n
  rw [h, key st2 m] at this
  exact showNat_injective (List.reverse_inj.1 this.symm)

theorem location_injective {n m : Nat} (h : location n = location m) : n = m :=
  showNat_injective (List.append_cancel_left h)

end Rfsm.Route
