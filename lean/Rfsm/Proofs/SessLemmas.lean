import Rfsm.Proofs.SelectLemmas
/-!
Two relations between a session and a later one (M-INT): `Kept` (the control part is the same) and
`Absorbs` (only effects of data-model calls were taken over), and the part of selection that
threads the session through the guards: it absorbs, and with pure guards it is a `find?`.
-/
namespace Rfsm.Interp

variable {σ : Type}

/-- parts of a session only the interpreter itself (never content) changes -/
structure Kept (s s' : Sess σ) : Prop where
  cfg : s'.cfg = s.cfg
  hv : s'.hv = s.hv
  running : s'.running = s.running
  toInvoke : s'.toInvoke = s.toInvoke
  entered : s'.entered = s.entered

theorem Kept.refl (s : Sess σ) : Kept s s := ⟨rfl, rfl, rfl, rfl, rfl⟩

theorem Kept.trans {a b c : Sess σ} (h1 : Kept a b) (h2 : Kept b c) : Kept a c :=
  ⟨h2.cfg.trans h1.cfg, h2.hv.trans h1.hv, h2.running.trans h1.running,
   h2.toInvoke.trans h1.toInvoke, h2.entered.trans h1.entered⟩

/-- `s'` is `s` after taking over the effects of data-model calls: the data may differ, the two
    queues and the trace are extended, nothing else differs.  Selection, guards, content blocks,
    `<finalize>` and autoforward are of this kind. -/
def Absorbs (s s' : Sess σ) : Prop := ∃ o : ExecOut σ, s' = s.absorb o

theorem Absorbs.refl (s : Sess σ) : Absorbs s s := ⟨{ dm := s.dm }, by simp [Sess.absorb]⟩

theorem Absorbs.trans {a b c : Sess σ} (h1 : Absorbs a b) (h2 : Absorbs b c) : Absorbs a c := by
  obtain ⟨o1, rfl⟩ := h1
  obtain ⟨o2, rfl⟩ := h2
  exact ⟨{ dm := o2.dm, raised := o1.raised ++ o2.raised, obs := o1.obs ++ o2.obs,
           selfExt := o1.selfExt ++ o2.selfExt }, by simp [Sess.absorb]⟩

theorem absorbs_absorb (s : Sess σ) (o : ExecOut σ) : Absorbs s (s.absorb o) := ⟨o, rfl⟩

theorem absorbs_emit (s : Sess σ) (o : List Obs) : Absorbs s (s.emit o) :=
  ⟨{ dm := s.dm, obs := o }, by simp [Sess.absorb, Sess.emit]⟩

theorem absorbs_raise (s : Sess σ) (l : List Event) : Absorbs s { s with iq := s.iq ++ l } :=
  ⟨{ dm := s.dm, raised := l }, by simp [Sess.absorb]⟩

theorem absorbs_dm (s : Sess σ) (x : σ) : Absorbs s { s with dm := x } :=
  ⟨{ dm := x }, by simp [Sess.absorb]⟩

theorem Absorbs.foldl {α : Type} {f : Sess σ → α → Sess σ} (hf : ∀ s a, Absorbs s (f s a))
    (l : List α) (s : Sess σ) : Absorbs s (l.foldl f s) :=
  foldl_rel Absorbs.refl Absorbs.trans hf l s

theorem Absorbs.kept {s s' : Sess σ} (h : Absorbs s s') : Kept s s' := by
  obtain ⟨o, rfl⟩ := h; exact ⟨rfl, rfl, rfl, rfl, rfl⟩

theorem Absorbs.children {s s' : Sess σ} (h : Absorbs s s') : s'.children = s.children := by
  obtain ⟨o, rfl⟩ := h; rfl

theorem foldl_trace {α : Type} {f : Sess σ → α → Sess σ} {g : α → List Obs}
    (h : ∀ s a, (f s a).trace = s.trace ++ g a) :
    ∀ (l : List α) (s : Sess σ), (l.foldl f s).trace = s.trace ++ l.flatMap g
  | [], s => by simp
  | a :: l, s => by rw [List.foldl_cons, foldl_trace h l, h, List.flatMap_cons, List.append_assoc]

theorem conditionMatch_absorbs (env : Env σ) (d : Doc) (s : Sess σ) (t : Nat) :
    Absorbs s (conditionMatch env d s t).1 := by
  unfold conditionMatch
  simp only
  split
  · exact Absorbs.refl s
  · split
    · exact absorbs_absorb _ _
    · exact (absorbs_absorb s _).trans (absorbs_raise _ _)

/-- one round of `firstEnabled`, with the result of `conditionMatch` as projections -/
theorem firstEnabled_cons (env : Env σ) (d : Doc) (s : Sess σ) (t : Nat) (ts : List Nat) :
    firstEnabled env d s (t :: ts) =
      if (conditionMatch env d s t).2 then ((conditionMatch env d s t).1, some t)
      else firstEnabled env d (conditionMatch env d s t).1 ts := by
  rw [firstEnabled]
  split <;> rename_i heq <;> simp [heq]

/-- one round of `selectLoop`, with the result of `firstEnabled` as projections -/
theorem selectLoop_cons (env : Env σ) (d : Doc) (ev : Option Descriptor.Str) (s : Sess σ) (a : Nat)
    (as acc : List Nat) :
    selectLoop env d ev s (a :: as) acc =
      selectLoop env d ev (firstEnabled env d s (candidates d ev a)).1 as
        (match (firstEnabled env d s (candidates d ev a)).2 with
         | some t => oadd acc t
         | none => acc) := by
  rw [selectLoop]
  split <;> rename_i heq <;> rw [heq]

theorem firstEnabled_absorbs (env : Env σ) (d : Doc) : ∀ (l : List Nat) (s : Sess σ),
    Absorbs s (firstEnabled env d s l).1
  | [], s => Absorbs.refl s
  | t :: ts, s => by
    rw [firstEnabled_cons]
    split
    · exact conditionMatch_absorbs env d s t
    · exact (conditionMatch_absorbs env d s t).trans (firstEnabled_absorbs env d ts _)

theorem selectLoop_absorbs (env : Env σ) (d : Doc) (ev : Option Descriptor.Str) :
    ∀ (as : List Nat) (s : Sess σ) (acc : List Nat), Absorbs s (selectLoop env d ev s as acc).1
  | [], s, _ => Absorbs.refl s
  | a :: as, s, acc => by
    rw [selectLoop_cons]
    exact (firstEnabled_absorbs env d (candidates d ev a) s).trans (selectLoop_absorbs env d ev as _ _)

theorem select_absorbs (env : Env σ) (d : Doc) (ev : Option Descriptor.Str) (s : Sess σ) :
    Absorbs s (select env d ev s).1 :=
  (selectLoop_absorbs env d ev (atomicStates d s.cfg) s []).trans (absorbs_emit _ _)

theorem firstEnabled_mem (env : Env σ) (d : Doc) :
    ∀ (l : List Nat) (s : Sess σ) (t : Nat), (firstEnabled env d s l).2 = some t → t ∈ l
  | [], s, t, h => by simp [firstEnabled] at h
  | a :: ts, s, t, h => by
    rw [firstEnabled_cons] at h
    split at h
    · simp at h; simp [h]
    · exact List.mem_cons_of_mem _ (firstEnabled_mem env d ts _ t h)

theorem selectLoop_mem (env : Env σ) (d : Doc) (ev : Option Descriptor.Str) :
    ∀ (as : List Nat) (s : Sess σ) (acc : List Nat) (t : Nat),
      t ∈ (selectLoop env d ev s as acc).2 → t ∈ acc ∨ ∃ a ∈ as, t ∈ candidates d ev a
  | [], s, acc, t, h => Or.inl (by simpa [selectLoop] using h)
  | a :: as, s, acc, t, h => by
    rw [selectLoop_cons] at h
    rcases selectLoop_mem env d ev as _ _ t h with h | ⟨b, hb, hc⟩
    · split at h
      · rename_i u heq
        rcases mem_oadd.1 h with h | rfl
        · exact Or.inl h
        · exact Or.inr ⟨a, List.mem_cons_self, firstEnabled_mem env d _ _ _ heq⟩
      · exact Or.inl h
    · exact Or.inr ⟨b, List.mem_cons_of_mem _ hb, hc⟩

/-- the enabled list of a selection (before conflict removal) -/
def enabledList (env : Env σ) (d : Doc) (ev : Option Descriptor.Str) (s : Sess σ) : List Nat :=
  (selectLoop env d ev s (atomicStates d s.cfg) []).2

theorem select_eq_removeConflicting (env : Env σ) (d : Doc) (ev : Option Descriptor.Str) (s : Sess σ) :
    (select env d ev s).2 = removeConflicting d s.hv s.cfg (enabledList env d ev s) := by
  unfold select enabledList
  have hc := (selectLoop_absorbs env d ev (atomicStates d s.cfg) s []).kept
  split
  rename_i s' enabled heq
  rw [heq] at hc
  simp only [heq]
  rw [hc.cfg, hc.hv]

/-! ### "first enabled" for guards that do not modify the data model -/

/-- guard evaluation leaves the data model unchanged (what the Recommendation requires of
    conditional expressions) -/
def GuardsPure (env : Env σ) : Prop := ∀ dm cfg c, (env.cond dm cfg c).1.dm = dm

/-- the boolean a guard evaluates to in data state `dm` and configuration `cfg` -/
def guardHolds (env : Env σ) (d : Doc) (dm : σ) (cfg : List Nat) (t : Nat) : Bool :=
  let c := (getTrans d t).cond
  if c.isEmpty then true else ((env.cond dm cfg c).2).getD false

theorem conditionMatch_val (env : Env σ) (d : Doc) (s : Sess σ) (t : Nat) :
    (conditionMatch env d s t).2 = guardHolds env d s.dm s.cfg t := by
  unfold conditionMatch guardHolds
  simp only
  split
  · rfl
  · split <;> simp_all

theorem conditionMatch_dm (env : Env σ) (hp : GuardsPure env) (d : Doc) (s : Sess σ) (t : Nat) :
    (conditionMatch env d s t).1.dm = s.dm := by
  unfold conditionMatch
  simp only
  split
  · rfl
  · have := hp s.dm s.cfg (getTrans d t).cond
    split <;> simp_all [Sess.absorb]

theorem firstEnabled_eq_find (env : Env σ) (hp : GuardsPure env) (d : Doc) :
    ∀ (l : List Nat) (s : Sess σ),
      (firstEnabled env d s l).2 = l.find? (guardHolds env d s.dm s.cfg) ∧
      (firstEnabled env d s l).1.dm = s.dm := by
  intro l
  induction l with
  | nil => intro s; simp [firstEnabled]
  | cons t ts ih =>
    intro s
    have hd := conditionMatch_dm env hp d s t
    have := ih (conditionMatch env d s t).1
    rw [hd, (conditionMatch_absorbs env d s t).kept.cfg] at this
    rw [firstEnabled_cons, conditionMatch_val, List.find?_cons]
    cases guardHolds env d s.dm s.cfg t <;> simp [this, hd]

end Rfsm.Interp
