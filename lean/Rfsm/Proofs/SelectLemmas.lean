import Rfsm.Proofs.SetLemmas
/-!
The pure part of transition selection (M-INT): exit sets (`mem_computeExitSet`), conflict removal —
the inner scan of `removeConflictingTransitions` in closed form (`scan_eq`), hence what one outer step
keeps (`mem_rcStep`).
-/
namespace Rfsm.Interp

/-! ### exit set -/

def exitStep (d : Doc) (hv : Table) (cfg : List Nat) (acc : List Nat) (tid : Nat) : List Nat :=
  let t := getTrans d tid
  if !t.target.isEmpty then
    let dom := transDomain d hv t
    (cfg.filter (fun s => isDescendant d s dom)).foldl oadd acc
  else acc

theorem computeExitSet_eq (d : Doc) (hv : Table) (cfg ts : List Nat) :
    computeExitSet d hv cfg ts = ts.foldl (exitStep d hv cfg) [] := rfl

/-- transition `tid` has targets and `x` lies below its domain: `tid` exits `x` if `x` is active -/
def exits (d : Doc) (hv : Table) (tid x : Nat) : Prop :=
  (getTrans d tid).target ≠ [] ∧ isDescendant d x (transDomain d hv (getTrans d tid)) = true

theorem mem_exitStep {d : Doc} {hv : Table} {cfg acc : List Nat} {tid x : Nat} :
    x ∈ exitStep d hv cfg acc tid ↔ x ∈ acc ∨ (x ∈ cfg ∧ exits d hv tid x) := by
  unfold exitStep exits
  by_cases h : (getTrans d tid).target = []
  · simp [h]
  · simp [h, mem_foldl_oadd]

theorem mem_computeExitSet {d : Doc} {hv : Table} {cfg ts : List Nat} {x : Nat} :
    x ∈ computeExitSet d hv cfg ts ↔ x ∈ cfg ∧ ∃ tid ∈ ts, exits d hv tid x := by
  rw [computeExitSet_eq, foldl_union (m := fun l x => x ∈ l) (f := exitStep d hv cfg)
    (Q := fun tid x => x ∈ cfg ∧ exits d hv tid x) fun _ _ _ => mem_exitStep]
  simp only [List.not_mem_nil, false_or]
  exact ⟨fun ⟨t, ht, hx, he⟩ => ⟨hx, t, ht, he⟩, fun ⟨hx, t, ht, he⟩ => ⟨t, ht, hx, he⟩⟩

theorem computeExitSet_nodup (d : Doc) (hv : Table) (cfg ts : List Nat) :
    (computeExitSet d hv cfg ts).Nodup := by
  refine foldl_inv (P := List.Nodup) (l := ts) (fun acc tid _ h => ?_) List.nodup_nil
  simp only
  split
  · exact nodup_foldl_oadd h
  · exact h

/-! ### conflict removal -/

/-- two transitions conflict in the current configuration: their exit sets intersect -/
def conflict (d : Doc) (hv : Table) (cfg : List Nat) (t1 t2 : Nat) : Bool :=
  hasIntersection (computeExitSet d hv cfg [t1]) (computeExitSet d hv cfg [t2])

theorem hasIntersection_iff {l m : List Nat} : hasIntersection l m = true ↔ ∃ x, x ∈ l ∧ x ∈ m := by
  simp [hasIntersection]

theorem conflict_comm (d : Doc) (hv : Table) (cfg : List Nat) (t1 t2 : Nat) :
    conflict d hv cfg t1 t2 = conflict d hv cfg t2 t1 := by
  unfold conflict
  rw [Bool.eq_iff_iff, hasIntersection_iff, hasIntersection_iff]
  constructor <;> (rintro ⟨x, h1, h2⟩; exact ⟨x, h2, h1⟩)

/-- `t2`, already selected, pre-empts `t1`: they conflict and `t1`'s source is not below `t2`'s -/
def preempts (d : Doc) (hv : Table) (cfg : List Nat) (t1 t2 : Nat) : Bool :=
  conflict d hv cfg t1 t2 && !isDescendant d (getTrans d t1).source (getTrans d t2).source

/-- the inner scan in closed form: it gives up when some member pre-empts `t1`, and otherwise
    collects the members that conflict with `t1` -/
theorem scan_eq (d : Doc) (hv : Table) (cfg : List Nat) (t1 : Nat) : ∀ (filtered toRemove : List Nat),
    removeConflicting.scan d hv cfg t1 filtered toRemove =
      if filtered.any (preempts d hv cfg t1) then none
      else some ((filtered.filter (conflict d hv cfg t1)).foldl oadd toRemove)
  | [], _ => rfl
  | t2 :: rest, tr => by
    unfold removeConflicting.scan
    simp only [List.any_cons, List.filter_cons, preempts]
    rw [show hasIntersection (computeExitSet d hv cfg [t1]) (computeExitSet d hv cfg [t2]) =
      conflict d hv cfg t1 t2 from rfl]
    cases conflict d hv cfg t1 t2 <;> cases isDescendant d (getTrans d t1).source (getTrans d t2).source <;>
      simp [scan_eq d hv cfg t1 rest, preempts]

theorem any_preempts {d : Doc} {hv : Table} {cfg filtered : List Nat} {t1 : Nat} :
    filtered.any (preempts d hv cfg t1) = true ↔
      ∃ t2 ∈ filtered, conflict d hv cfg t1 t2 = true ∧
        isDescendant d (getTrans d t1).source (getTrans d t2).source = false := by
  simp [preempts]

def rcStep (d : Doc) (hv : Table) (cfg : List Nat) (filtered : List Nat) (t1 : Nat) : List Nat :=
  match removeConflicting.scan d hv cfg t1 filtered [] with
  | none => filtered
  | some toRemove => oadd (toRemove.foldl odel filtered) t1

theorem removeConflicting_eq (d : Doc) (hv : Table) (cfg enabled : List Nat) :
    removeConflicting d hv cfg enabled = enabled.foldl (rcStep d hv cfg) [] := rfl

theorem mem_rcStep {d : Doc} {hv : Table} {cfg filtered : List Nat} {t1 x : Nat} :
    x ∈ rcStep d hv cfg filtered t1 ↔
      if filtered.any (preempts d hv cfg t1) then x ∈ filtered
      else (x ∈ filtered ∧ conflict d hv cfg t1 x = false) ∨ x = t1 := by
  unfold rcStep
  rw [scan_eq]
  by_cases hp : filtered.any (preempts d hv cfg t1) = true
  · simp only [hp, if_true]
  · rw [if_neg hp, if_neg hp]
    show x ∈ oadd _ t1 ↔ _
    rw [mem_oadd, mem_foldl_odel, mem_foldl_oadd, List.mem_filter]
    cases conflict d hv cfg t1 x <;> simp

theorem nodup_rcStep {d : Doc} {hv : Table} {cfg filtered : List Nat} {t1 : Nat} (h : filtered.Nodup) :
    (rcStep d hv cfg filtered t1).Nodup := by
  unfold rcStep
  split
  · exact h
  · exact nodup_oadd (nodup_foldl_odel h)

/-- invariant of the filtered list: duplicate free and pairwise conflict free -/
def ConflictFree (d : Doc) (hv : Table) (cfg : List Nat) (l : List Nat) : Prop :=
  l.Nodup ∧ ∀ a ∈ l, ∀ b ∈ l, a ≠ b → conflict d hv cfg a b = false

theorem rcStep_inv {d : Doc} {hv : Table} {cfg filtered : List Nat} {t1 : Nat}
    (h : ConflictFree d hv cfg filtered) : ConflictFree d hv cfg (rcStep d hv cfg filtered t1) := by
  refine ⟨nodup_rcStep h.1, fun a ha b hb hab => ?_⟩
  rw [mem_rcStep] at ha hb
  by_cases hp : filtered.any (preempts d hv cfg t1) = true
  · rw [if_pos hp] at ha hb
    exact h.2 a ha b hb hab
  · rw [if_neg hp] at ha hb
    rcases ha with ⟨ha, hca⟩ | rfl <;> rcases hb with ⟨hb, hcb⟩ | rfl
    · exact h.2 a ha b hb hab
    · rw [conflict_comm]; exact hca
    · exact hcb
    · exact absurd rfl hab

theorem rcStep_subset {d : Doc} {hv : Table} {cfg filtered : List Nat} {t1 x : Nat}
    (hx : x ∈ rcStep d hv cfg filtered t1) : x ∈ filtered ∨ x = t1 := by
  rw [mem_rcStep] at hx
  split at hx
  · exact Or.inl hx
  · exact hx.imp And.left id

theorem removeConflicting_conflictFree (d : Doc) (hv : Table) (cfg enabled : List Nat) :
    ConflictFree d hv cfg (removeConflicting d hv cfg enabled) :=
  foldl_inv (fun _ _ _ h => rcStep_inv h) ⟨List.nodup_nil, by simp⟩

theorem removeConflicting_subset (d : Doc) (hv : Table) (cfg enabled : List Nat) :
    ∀ x ∈ removeConflicting d hv cfg enabled, x ∈ enabled := by
  refine foldl_inv (P := fun acc => ∀ x ∈ acc, x ∈ enabled) (fun acc t ht h x hx => ?_) (by simp)
  rcases rcStep_subset hx with hx | rfl
  · exact h x hx
  · exact ht

end Rfsm.Interp
