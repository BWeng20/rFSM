import Rfsm.Proofs.CodecReads
/-!
Two facts that hold of *every* reader program, by induction on `Prog`: the error flag is sticky
(`Prog.sticky`), and a run that ends without error is unchanged by appending input (`Prog.mono`).
Consequence: a reader program that decodes an image exactly ends in the error state on every strict
prefix of that image.
-/
namespace Rfsm.Codec

theorem readTypeAndSize_notok (st : RState) (h : st.ok = false) : readTypeAndSize st = ([], st) := by
  simp [readTypeAndSize, h]

theorem error_ok (st : RState) : st.error.ok = false := by
  unfold RState.error
  split <;> simp_all

theorem Prim.sticky {α} (p : Prim α) (st : RState) (h : st.ok = false) : (p.run st).2.ok = false := by
  cases p <;>
    simp [Prim.run, readBoolS, readOptStrS, readStringS, readUIntS, readTypeAndSize, h, error_ok,
      RState.setPanic]
  -- left: `.panic s`, by the `match st.panic` of `setPanic`
  · split <;> simp [h]

theorem Prog.sticky {α} (p : Prog α) (st : RState) (h : st.ok = false) : (p.run st).2.ok = false := by
  induction p generalizing st with
  | pure a => exact h
  | prim q => exact Prim.sticky q st h
  | bind q f ihq ihf => exact ihf _ _ (ihq st h)

def RState.ext (st : RState) (e : List Nat) : RState := { st with inp := st.inp ++ e }

@[simp] theorem ext_ok (st : RState) (e) : (st.ext e).ok = st.ok := rfl
@[simp] theorem ext_tid (st : RState) (e) : (st.ext e).tid = st.tid := rfl
@[simp] theorem ext_num (st : RState) (e) : (st.ext e).num = st.num := rfl
@[simp] theorem ext_inp (st : RState) (e) : (st.ext e).inp = st.inp ++ e := rfl

theorem error_ext (st : RState) (e) : (st.ext e).error = st.error.ext e := by
  cases h : st.ok <;> simp [RState.error, RState.ext, h]

def Mono {α} (f : RState → α × RState) : Prop :=
  ∀ st e, (f st).2.ok = true → f (st.ext e) = ((f st).1, (f st).2.ext e)

theorem readMore_notok (n : Nat) (st : RState) (h : st.ok = false) : readMore n st = st := by
  cases n <;> simp [readMore, h]

theorem readMore_mono (n : Nat) (st : RState) (e : List Nat) (h : (readMore n st).ok = true) :
    readMore n (st.ext e) = (readMore n st).ext e := by
  induction n generalizing st with
  | zero => rfl
  | succ n ih =>
    cases hok : st.ok with
    | false => simp [readMore_notok, hok] at h
    | true =>
      cases hi : st.inp with
      | nil =>
        simp [readMore, hok, hi, readMore_notok _ _ (error_ok st)] at h
        simp [error_ok] at h
      | cons b r =>
        simp only [readMore, hok, hi, if_true, ext_ok, ext_inp, List.cons_append] at h ⊢
        exact ih _ h

theorem readStrPayload_mono (us : Nat) : Mono (readStrPayload us) := by
  intro st e h
  unfold readStrPayload at h ⊢
  by_cases hl : st.inp.length < us
  · simp [hl, error_ok] at h
  · have hl' : ¬ (st.inp ++ e).length < us := by simp; omega
    have ht : (st.inp ++ e).take us = st.inp.take us := List.take_append_of_le_length (by omega)
    have hd : (st.inp ++ e).drop us = st.inp.drop us ++ e := List.drop_append_of_le_length (by omega)
    simp only [hl, hl', if_false, ext_inp, ht, hd] at h ⊢
    by_cases hv : validUtf8 (st.inp.take us) = true
    · simp [hv, RState.ext]
    · simp [hv, error_ok] at h

theorem readLongStr_mono : Mono readLongStr := by
  intro st e h
  unfold readLongStr longStrPayload at h ⊢
  -- it ended well, so the eight length bytes were there (`readMore_mono`); then the payload
  have h8 : (readMore 8 { st with tid := 0xE0, num := 0 }).ok = true := by
    cases hk : (readMore 8 { st with tid := 0xE0, num := 0 }).ok <;> simp_all
  have hm := readMore_mono 8 { st with tid := 0xE0, num := 0 } e h8
  rw [show ({ st.ext e with tid := 0xE0, num := 0 } : RState) = RState.ext { st with tid := 0xE0, num := 0 } e
    from rfl, hm]
  simp only [h8, ext_ok, if_true] at h ⊢
  exact readStrPayload_mono _ _ e h

theorem rts_mono : Mono readTypeAndSize := by
  intro st e h
  obtain ⟨inp, ok, t, n, pn⟩ := st
  cases ok with
  | false => simp [readTypeAndSize] at h
  | true =>
    cases inp with
    | nil => simp [readTypeAndSize, error_ok] at h
    | cons val r =>
      obtain ⟨hi, lo, rfl, hh, hl⟩ : ∃ hi lo, val = hi + lo ∧ hi % 16 = 0 ∧ lo < 16 :=
        ⟨val / 16 * 16, val % 16, by omega, by omega, by omega⟩
      simp only [RState.ext, List.cons_append, rts_cons _ _ hh hl] at h ⊢
      by_cases h1 : hi = 0x10
      · simp only [if_pos h1]
      simp only [if_neg h1] at h ⊢
      by_cases h2 : 0x30 ≤ hi ∧ hi ≤ 0xB0
      · simp only [if_pos h2] at h ⊢
        exact congrArg _ (readMore_mono _ ⟨r, true, hi, lo, pn⟩ e h)
      simp only [if_neg h2] at h ⊢
      by_cases h3 : hi = 0xC0
      · simp only [if_pos h3] at h ⊢
        exact readStrPayload_mono lo ⟨r, true, 0xC0, 0, pn⟩ e h
      simp only [if_neg h3] at h ⊢
      by_cases h4 : hi = 0xD0
      · simp only [if_pos h4] at h ⊢
        cases r with
        | nil => simp [error_ok] at h
        | cons b r' => exact readStrPayload_mono _ ⟨r', true, 0xD0, 0, pn⟩ e h
      simp only [if_neg h4] at h ⊢
      by_cases h5 : hi = 0xE0
      · simp only [if_pos h5] at h ⊢
        exact readLongStr_mono ⟨r, true, t, n, pn⟩ e h
      · simp only [if_neg h5]

theorem readUIntS_mono : Mono readUIntS := by
  intro st e h
  unfold readUIntS at h ⊢
  by_cases h1 : (readTypeAndSize st).2.ok = true
  · rw [rts_mono st e h1]
    simp only [h1, if_true, ext_ok, ext_tid, ext_num] at h ⊢
    by_cases h2 : isNumTid (readTypeAndSize st).2.tid = true
    · simp [h2]
    · simp [h2, error_ok] at h
  · simp [h1] at h

theorem readStringS_mono : Mono readStringS := by
  intro st e h
  unfold readStringS at h ⊢
  by_cases h1 : (readTypeAndSize st).2.ok = true
  · rw [rts_mono st e h1]
    simp only [h1, if_true, ext_ok, ext_tid] at h ⊢
    by_cases h2 : (readTypeAndSize st).2.tid = 0xC0 ∨ (readTypeAndSize st).2.tid = 0xD0 ∨
        (readTypeAndSize st).2.tid = 0xE0
    · simp [h2]
    · simp [h2, error_ok] at h
  · simp [h1] at h

theorem readOptStrS_mono : Mono readOptStrS := by
  intro st e h
  unfold readOptStrS at h ⊢
  cases hok : st.ok with
  | false => simp [hok] at h
  | true =>
    simp only [hok, if_true, ext_ok] at h ⊢
    by_cases h1 : (readTypeAndSize st).2.ok = true
    · rw [rts_mono st e h1]
      simp only [ext_tid] at h ⊢
      by_cases h2 : (readTypeAndSize st).2.tid = 0x10
      · simp [h2]
      · by_cases h3 : (readTypeAndSize st).2.tid = 0xE0 ∨ (readTypeAndSize st).2.tid = 0xD0 ∨
            (readTypeAndSize st).2.tid = 0xC0
        · simp [h2, h3]
        · simp [h2, h3, error_ok] at h
    · have hn : (readTypeAndSize st).2.ok = false := by simpa using h1
      split at h
      · simp [hn] at h
      · split at h <;> simp [hn, error_ok] at h

theorem readBoolS_mono : Mono readBoolS := by
  intro st e h
  obtain ⟨inp, ok, t, n, pn⟩ := st
  cases ok with
  | false => simp [readBoolS] at h
  | true =>
    cases inp with
    | nil => simp [readBoolS, error_ok] at h
    | cons b r =>
      simp only [readBoolS, if_true, RState.ext, List.cons_append] at h ⊢
      by_cases h1 : b = 0x1F
      · simp [h1]
      · by_cases h2 : b = 0x10
        · simp [h2]
        · simp [h1, h2, error_ok] at h

theorem Prim.mono {α} (p : Prim α) : Mono p.run := by
  intro st e h
  cases p with
  | bool => exact readBoolS_mono st e h
  | optStr => exact readOptStrS_mono st e h
  | str => exact readStringS_mono st e h
  | uint => exact readUIntS_mono st e h
  | fail => simp [Prim.run, error_ok] at h
  | hasError => rfl
  | panic s =>
    obtain ⟨inp, ok, t, n, pn⟩ := st
    cases pn <;> rfl

theorem Prog.mono {α} (p : Prog α) : Mono p.run := by
  intro st e h
  induction p generalizing st with
  | pure a => rfl
  | prim q => exact Prim.mono q st e h
  | bind q f ihq ihf =>
    have h' : ((f (q.run st).1).run (q.run st).2).2.ok = true := h
    have hq : (q.run st).2.ok = true := by
      cases hk : (q.run st).2.ok with
      | true => rfl
      | false => rw [Prog.sticky _ _ hk] at h'; exact absurd h' (by simp)
    show (f (q.run (st.ext e)).1).run (q.run (st.ext e)).2 = _
    rw [ihq st hq]
    exact ihf _ _ h'

/-- if `p` reads `img` exactly (to `x`, nothing left), then on every strict prefix of `img` the
sticky error flag is set at the end — whatever was returned -/
theorem prefix_sets_error {α} (p : Prog α) (img : List Nat) (x : α) (hr : Reads p img x)
    (k : Nat) (hk : k < img.length) (t n : Nat) (pn : Option Site) :
    (p.run ⟨img.take k, true, t, n, pn⟩).2.ok = false := by
  cases hok : (p.run ⟨img.take k, true, t, n, pn⟩).2.ok with
  | false => rfl
  | true =>
    -- the run on the prefix ended well, so it is also the run on the whole of `img`, which leaves nothing
    have hm := Prog.mono p ⟨img.take k, true, t, n, pn⟩ (img.drop k) hok
    obtain ⟨t', n', hfull⟩ := hr [] t n pn
    rw [show (RState.mk (img.take k) true t n pn).ext (img.drop k) = ⟨img ++ [], true, t, n, pn⟩ by
      simp [RState.ext], hfull] at hm
    have hd : img.drop k = [] := (List.append_eq_nil_iff.mp (congrArg (·.2.inp) hm).symm).2
    have := congrArg List.length hd
    simp at this
    omega

end Rfsm.Codec
