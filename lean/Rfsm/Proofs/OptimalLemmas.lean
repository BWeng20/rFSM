import Rfsm.Proofs.SessLemmas
/-!
Lemmas towards the declarative optimal transition set of C02 (M-INT):

* with pure guards, `selectLoop` is a fold of "first candidate whose guard holds" over the atomic
  states (`selectLoop_pure`), hence the enabled list consists exactly of those first candidates
  (`mem_pickFold`);
* the fold of `rcStep` (= `removeConflictingTransitions`) loses an enabled transition only to a
  *different* enabled transition it conflicts with (`rc_fold_absent`).
-/
namespace Rfsm.Interp

variable {σ : Type}

/-- what one atomic state contributes to the enabled list when guards are pure -/
def pickStep (env : Env σ) (d : Doc) (ev : Option Descriptor.Str) (dm : σ) (cfg : List Nat)
    (acc : List Nat) (a : Nat) : List Nat :=
  match (candidates d ev a).find? (guardHolds env d dm cfg) with
  | some t => oadd acc t
  | none => acc

theorem selectLoop_pure (env : Env σ) (hp : GuardsPure env) (d : Doc) (ev : Option Descriptor.Str) :
    ∀ (as : List Nat) (s : Sess σ) (acc : List Nat),
      (selectLoop env d ev s as acc).2 = as.foldl (pickStep env d ev s.dm s.cfg) acc := by
  intro as
  induction as with
  | nil => intro s acc; simp [selectLoop]
  | cons a as ih =>
    intro s acc
    obtain ⟨hf, hd⟩ := firstEnabled_eq_find env hp d (candidates d ev a) s
    rw [selectLoop_cons, ih, hd, (firstEnabled_absorbs env d (candidates d ev a) s).kept.cfg, hf]
    rfl

theorem pickFold_nodup (env : Env σ) (d : Doc) (ev : Option Descriptor.Str) (dm : σ) (cfg : List Nat)
    (as acc : List Nat) (h : acc.Nodup) : (as.foldl (pickStep env d ev dm cfg) acc).Nodup := by
  refine foldl_inv (P := List.Nodup) (fun acc a _ h => ?_) h
  unfold pickStep
  split
  · exact nodup_oadd h
  · exact h

theorem mem_pickStep {env : Env σ} {d : Doc} {ev : Option Descriptor.Str} {dm : σ} {cfg acc : List Nat}
    {a t : Nat} : t ∈ pickStep env d ev dm cfg acc a ↔
      t ∈ acc ∨ (candidates d ev a).find? (guardHolds env d dm cfg) = some t := by
  unfold pickStep
  split
  · rename_i u hu; rw [hu, mem_oadd, Option.some.injEq, eq_comm]
  · rename_i hu; rw [hu]; simp

theorem mem_pickFold (env : Env σ) (d : Doc) (ev : Option Descriptor.Str) (dm : σ) (cfg : List Nat)
    (as acc : List Nat) (t : Nat) :
    t ∈ as.foldl (pickStep env d ev dm cfg) acc ↔
      t ∈ acc ∨ ∃ a ∈ as, (candidates d ev a).find? (guardHolds env d dm cfg) = some t :=
  foldl_union (m := fun l t => t ∈ l) (f := pickStep env d ev dm cfg)
    (Q := fun a t => (candidates d ev a).find? (guardHolds env d dm cfg) = some t) fun _ _ _ => mem_pickStep

/-- Invariant of the filter fold: every transition seen so far is still kept or conflicts with a
    *different* transition seen so far.  `seen` are the transitions already folded, `acc` what the fold
    has kept of them, `l` those still to come. -/
theorem rc_fold_absent (d : Doc) (hv : Table) (cfg : List Nat) :
    ∀ (l acc seen : List Nat), (∀ x ∈ acc, x ∈ seen) → (seen ++ l).Nodup →
      (∀ t ∈ seen, t ∈ acc ∨ ∃ t' ∈ seen, t' ≠ t ∧ conflict d hv cfg t t' = true) →
      ∀ t ∈ seen ++ l, t ∈ l.foldl (rcStep d hv cfg) acc ∨
        ∃ t' ∈ seen ++ l, t' ≠ t ∧ conflict d hv cfg t t' = true := by
  intro l
  induction l with
  | nil => intro acc seen _ _ hinv t ht; simpa using hinv t (by simpa using ht)
  | cons a l ih =>
    intro acc seen hsub hnd hinv t ht
    have ha : a ∉ seen := fun h => (List.nodup_append.1 hnd).2.2 a h a List.mem_cons_self rfl
    have := ih (rcStep d hv cfg acc a) (seen ++ [a])
      (fun x hx => (rcStep_subset hx).elim (fun h => List.mem_append_left _ (hsub x h)) (fun h => by simp [h]))
      (by simpa using hnd) ?_ t (by simpa using ht)
    · simpa using this
    -- the invariant after the step at `a`, read off `mem_rcStep`
    intro t ht
    rw [mem_rcStep]
    rcases List.mem_append.1 ht with hts | hta
    · rcases hinv t hts with h | ⟨t', h', hne, hc⟩
      · split
        · exact Or.inl h
        · rcases Bool.eq_false_or_eq_true (conflict d hv cfg a t) with hc | hc
          · exact Or.inr ⟨a, by simp, fun e => ha (e ▸ hts), by rw [conflict_comm]; exact hc⟩
          · exact Or.inl (Or.inl ⟨h, hc⟩)
      · exact Or.inr ⟨t', List.mem_append_left _ h', hne, hc⟩
    · obtain rfl := List.mem_singleton.1 hta
      split
      · rename_i hp
        obtain ⟨t2, h2, hc, _⟩ := any_preempts.1 hp
        exact Or.inr ⟨t2, List.mem_append_left _ (hsub t2 h2), fun e => ha (e ▸ hsub t2 h2), hc⟩
      · exact Or.inl (Or.inr rfl)

theorem removeConflicting_absent (d : Doc) (hv : Table) (cfg enabled : List Nat) (hnd : enabled.Nodup) :
    ∀ t ∈ enabled, t ∈ removeConflicting d hv cfg enabled ∨
      ∃ t' ∈ enabled, t' ≠ t ∧ conflict d hv cfg t t' = true := by
  intro t ht
  have := rc_fold_absent d hv cfg enabled [] [] (by simp) (by simpa using hnd) (by simp) t (by simpa using ht)
  simpa [removeConflicting_eq] using this

end Rfsm.Interp
