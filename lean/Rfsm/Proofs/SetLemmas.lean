import Rfsm.Model.Interp
/-!
General rules for left folds (invariant, preorder, union, "adds and never loses", congruence), and
lemmas about the `OrderedSet` / `List.sort` models (`oadd`, `odel`, `ounion`, `sortBy`).
-/
namespace Rfsm.Interp

theorem foldl_inv {α β : Type} {P : β → Prop} {f : β → α → β} {l : List α}
    (hf : ∀ b, ∀ a ∈ l, P b → P (f b a)) {b : β} (h : P b) : P (l.foldl f b) :=
  List.foldlRecOn l f h fun b hb a ha => hf b a ha hb

theorem foldl_rel {α β : Type} {R : β → β → Prop} (refl : ∀ b, R b b)
    (trans : ∀ {a b c}, R a b → R b c → R a c) {f : β → α → β} (hf : ∀ b a, R b (f b a))
    (l : List α) (b : β) : R b (l.foldl f b) :=
  foldl_inv (P := R b) (fun _ a _ h => trans h (hf _ a)) (refl b)

/-- a fold whose steps each add `Q a` to what the accumulator holds computes the union -/
theorem foldl_union {α β γ : Type} {m : β → γ → Prop} {Q : α → γ → Prop} {f : β → α → β}
    (step : ∀ b a x, m (f b a) x ↔ m b x ∨ Q a x) {x : γ} :
    ∀ {l : List α} {b : β}, m (l.foldl f b) x ↔ m b x ∨ ∃ a ∈ l, Q a x
  | [], b => by simp
  | a :: l, b => by
    rw [List.foldl_cons, foldl_union step, step, or_assoc]
    simp

theorem foldl_adds {α β : Type} {P : β → Prop} {f : β → α → β} {l : List α} {a : α}
    (mono : ∀ b a, P b → P (f b a)) (adds : ∀ b, P (f b a)) (ha : a ∈ l) (b : β) : P (l.foldl f b) := by
  induction l generalizing b with
  | nil => cases ha
  | cons c l ih =>
    rcases List.mem_cons.1 ha with rfl | ha
    · exact foldl_inv (b := f b a) (fun b c _ => mono b c) (adds b)
    · exact ih ha _

theorem foldl_fixed {α β : Type} (l : List α) (b : β) : l.foldl (fun b _ => b) b = b := by
  induction l <;> simp_all

theorem foldl_congr_mem {α β : Type} {f g : β → α → β} {l : List α}
    (h : ∀ b, ∀ a ∈ l, f b a = g b a) (b : β) : l.foldl f b = l.foldl g b :=
  List.foldl_rel (r := Eq) rfl fun a ha c _ e => e ▸ h c a ha

/-! ### ordered sets -/

theorem mem_oadd {l : List Nat} {x y : Nat} : y ∈ oadd l x ↔ y ∈ l ∨ y = x := by
  unfold oadd
  split
  · rename_i h
    have : x ∈ l := by simpa using h
    constructor
    · exact Or.inl
    · rintro (h' | rfl) <;> assumption
  · simp

theorem nodup_oadd {l : List Nat} {x : Nat} (h : l.Nodup) : (oadd l x).Nodup := by
  unfold oadd
  split
  · exact h
  · rename_i hx
    have : x ∉ l := by simpa using hx
    rw [List.nodup_append]
    refine ⟨h, by simp, fun a ha b hb e => this ?_⟩
    rwa [← List.mem_singleton.1 hb, ← e]

theorem mem_odel {l : List Nat} {x y : Nat} : y ∈ odel l x ↔ y ∈ l ∧ y ≠ x := by
  simp [odel]

theorem nodup_odel {l : List Nat} {x : Nat} (h : l.Nodup) : (odel l x).Nodup :=
  h.sublist List.filter_sublist

theorem mem_foldl_oadd {m l : List Nat} {y : Nat} : y ∈ m.foldl oadd l ↔ y ∈ l ∨ y ∈ m := by
  rw [foldl_union (m := fun l y => y ∈ l) (Q := fun a y => y = a) fun _ _ _ => mem_oadd]
  simp

theorem nodup_foldl_oadd {m l : List Nat} (h : l.Nodup) : (m.foldl oadd l).Nodup :=
  foldl_inv (P := List.Nodup) (fun _ _ _ => nodup_oadd) h

theorem nodup_foldl_odel {m l : List Nat} (h : l.Nodup) : (m.foldl odel l).Nodup :=
  foldl_inv (P := List.Nodup) (fun _ _ _ => nodup_odel) h

theorem mem_ounion {l m : List Nat} {y : Nat} : y ∈ ounion l m ↔ y ∈ l ∨ y ∈ m := mem_foldl_oadd

theorem mem_foldl_odel {m : List Nat} : ∀ {l : List Nat} {y : Nat}, y ∈ m.foldl odel l ↔ y ∈ l ∧ y ∉ m := by
  induction m with
  | nil => simp
  | cons a m ih => intro l y; simp only [List.foldl_cons, ih, mem_odel, List.mem_cons, not_or, and_assoc]

/-! ### insertion sort, ascending and descending at once

Permutation and sortedness; stability (claimed in the model's docstrings) is not proved and not used. -/

/-- `insertBy` and `insertByDesc` for an arbitrary test "`y` stays in front of `x`" -/
def insertR (r : Nat → Nat → Bool) (x : Nat) : List Nat → List Nat
  | [] => [x]
  | y :: ys => if r y x then y :: insertR r x ys else x :: y :: ys

theorem insertBy_eq (key : Nat → Nat) (x : Nat) (l : List Nat) :
    insertBy key x l = insertR (fun y x => key y ≤ key x) x l := by
  induction l with
  | nil => rfl
  | cons y ys ih => simp [insertBy, insertR, ih]

theorem insertByDesc_eq (key : Nat → Nat) (x : Nat) (l : List Nat) :
    insertByDesc key x l = insertR (fun y x => key x ≤ key y) x l := by
  induction l with
  | nil => rfl
  | cons y ys ih => simp [insertByDesc, insertR, ih]

theorem perm_insertR {r : Nat → Nat → Bool} {x : Nat} : ∀ {l : List Nat}, (insertR r x l).Perm (x :: l)
  | [] => .refl _
  | y :: ys => by
    unfold insertR
    split
    · exact (perm_insertR.cons y).trans (.swap x y ys)
    · exact .refl _

theorem sorted_insertR {r : Nat → Nat → Bool} (total : ∀ a b, r a b = false → r b a = true)
    (trans : ∀ a b c, r a b = true → r b c = true → r a c = true) {x : Nat} :
    ∀ {l : List Nat}, l.Pairwise (r · ·) → (insertR r x l).Pairwise (r · ·)
  | [], _ => by simp [insertR]
  | y :: ys, h => by
    have ⟨hy, hys⟩ := List.pairwise_cons.1 h
    unfold insertR
    split
    · rename_i hyx
      refine List.pairwise_cons.2 ⟨fun b hb => ?_, sorted_insertR total trans hys⟩
      rcases List.mem_cons.1 (perm_insertR.mem_iff.1 hb) with rfl | hb
      · exact hyx
      · exact hy b hb
    · rename_i hyx
      have hxy := total y x (by simpa using hyx)
      refine List.pairwise_cons.2 ⟨fun b hb => ?_, h⟩
      rcases List.mem_cons.1 hb with rfl | hb
      · exact hxy
      · exact trans _ _ _ hxy (hy b hb)

theorem foldl_insertR {r : Nat → Nat → Bool} (l : List Nat) :
    ∀ acc, (l.foldl (fun acc x => insertR r x acc) acc).Perm (l ++ acc) := by
  induction l with
  | nil => intro acc; exact .refl _
  | cons a l ih =>
    intro acc
    exact (ih _).trans (((perm_insertR.append_left l)).trans List.perm_middle)

theorem sortBy_perm (key : Nat → Nat) (l : List Nat) : (sortBy key l).Perm l := by
  simpa [sortBy, insertBy_eq] using foldl_insertR (r := fun y x => key y ≤ key x) l []

theorem sortByDesc_perm (key : Nat → Nat) (l : List Nat) : (sortByDesc key l).Perm l := by
  simpa [sortByDesc, insertByDesc_eq] using foldl_insertR (r := fun y x => key x ≤ key y) l []

theorem sortBy_sorted (key : Nat → Nat) (l : List Nat) :
    (sortBy key l).Pairwise (fun a b => key a ≤ key b) := by
  refine foldl_inv (l := l) (fun acc x _ h => ?_) List.Pairwise.nil
  rw [insertBy_eq]
  simpa using sorted_insertR (r := fun y x => key y ≤ key x) (by simp; omega) (by simp; omega)
    (by simpa using h)

theorem sortByDesc_sorted (key : Nat → Nat) (l : List Nat) :
    (sortByDesc key l).Pairwise (fun a b => key b ≤ key a) := by
  refine foldl_inv (l := l) (fun acc x _ h => ?_) List.Pairwise.nil
  rw [insertByDesc_eq]
  simpa using sorted_insertR (r := fun y x => key x ≤ key y) (by simp; omega) (by simp; omega)
    (by simpa using h)

theorem mem_sortBy {key : Nat → Nat} {l : List Nat} {x : Nat} : x ∈ sortBy key l ↔ x ∈ l :=
  (sortBy_perm key l).mem_iff

theorem mem_sortByDesc {key : Nat → Nat} {l : List Nat} {x : Nat} : x ∈ sortByDesc key l ↔ x ∈ l :=
  (sortByDesc_perm key l).mem_iff

end Rfsm.Interp
