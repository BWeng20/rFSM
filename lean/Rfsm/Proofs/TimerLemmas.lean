import Rfsm.Model.Timer
/-!
Invariants of the per-session timer model (`Rfsm.Timer`) and the lemmas the C16 theorems need.
The invariant `WF` is about two lists (`wf_iff`): `Timer.queue` is in pop order, the serial numbers in `Timer.sent`
are distinct and below `nextSeq`.  Every operation (`step_cases`) only drops (`Drops`), or leaves both lists as they
are (`wake_keeps`), or adds one entry with the next serial number (`Timer.accept`).
-/
namespace Rfsm.Timer

variable {δ ε : Type}

/-- pop order of the heap: by due time, then by order of scheduling -/
def Entry.lt (a b : Entry ε) : Prop := a.due < b.due ∨ (a.due = b.due ∧ a.seq < b.seq)

theorem filter_key_eq {α : Type} {f : α → Nat} {l : List α} (hn : l.Pairwise (fun a b => f a ≠ f b))
    {d : α} (hd : d ∈ l) : l.filter (fun x => f x = f d) = [d] := by
  induction l with
  | nil => cases hd
  | cons x xs ih =>
    have hx := List.pairwise_cons.1 hn
    rcases List.mem_cons.1 hd with rfl | hd
    · have : xs.filter (fun y => decide (f y = f d)) = [] :=
        List.filter_eq_nil_iff.2 fun y hy => by simpa using (hx.1 y hy).symm
      simp [this]
    · have hne : ¬ f x = f d := hx.1 d hd
      simp [hne, ih hx.2 hd]

theorem eq_of_key_eq {α : Type} {f : α → Nat} {l : List α} (hl : l.Pairwise (fun a b => f a ≠ f b))
    {a b : α} (ha : a ∈ l) (hb : b ∈ l) (hs : f a = f b) : a = b :=
  List.mem_singleton.1 (filter_key_eq hl hb ▸ List.mem_filter.2 ⟨ha, decide_eq_true hs⟩)

/-! ### heap insertion -/

theorem insertEntry_perm (e : Entry ε) (l : List (Entry ε)) : (insertEntry e l).Perm (e :: l) := by
  induction l with
  | nil => exact .refl _
  | cons y ys ih =>
    unfold insertEntry
    split
    · exact (ih.cons y).trans (.swap e y ys)
    · exact .refl _

theorem mem_insertEntry {e x : Entry ε} {l : List (Entry ε)} :
    x ∈ insertEntry e l ↔ x = e ∨ x ∈ l :=
  (insertEntry_perm e l).mem_iff.trans List.mem_cons

theorem insertEntry_sorted {e : Entry ε} {l : List (Entry ε)}
    (hs : l.Pairwise Entry.lt) (hseq : ∀ x ∈ l, x.seq < e.seq) :
    (insertEntry e l).Pairwise Entry.lt := by
  induction l with
  | nil => simp [insertEntry]
  | cons y ys ih =>
    have hy := List.pairwise_cons.1 hs
    have hye := hseq y (List.mem_cons_self ..)
    unfold insertEntry
    split
    · refine List.pairwise_cons.2 ⟨fun x hx => ?_, ih hy.2 (fun x hx => hseq x (List.mem_cons_of_mem _ hx))⟩
      rcases mem_insertEntry.1 hx with rfl | hx
      · unfold Entry.lt; omega
      · exact hy.1 x hx
    · refine List.pairwise_cons.2 ⟨fun x hx => ?_, hs⟩
      rcases List.mem_cons.1 hx with rfl | hx
      · unfold Entry.lt; omega
      · have := hy.1 x hx
        unfold Entry.lt at *; omega

/-! ### the invariant -/

/-- clause by clause; consumers read the fields, the preservation lemmas go through `wf_iff` -/
structure WF (t : Timer δ ε) : Prop where
  sorted : t.pending.Pairwise Entry.lt
  pnodup : t.pending.Pairwise (fun a b => a.seq ≠ b.seq)
  pseq : ∀ e ∈ t.pending, e.seq < t.nextSeq
  lseq : ∀ d ∈ t.log, d.entry.seq < t.nextSeq
  ltime : ∀ d ∈ t.log, d.entry.due ≤ d.time ∧ d.time ≤ t.now
  lbefore : ∀ d ∈ t.log, d.viaTimer = true → ∀ e ∈ t.pending, Entry.lt d.entry e
  lsorted : t.log.Pairwise (fun a b => a.viaTimer = true → b.viaTimer = true → Entry.lt a.entry b.entry)
  lnodup : t.log.Pairwise (fun a b => a.entry.seq ≠ b.entry.seq)
  ldisj : ∀ d ∈ t.log, ∀ e ∈ t.pending, d.entry.seq ≠ e.seq
  own : ∀ e ∈ t.pending, (e.sendid, e.seq) ∈ t.delayed
  gseq : ∀ p ∈ t.delayed, p.2 < t.nextSeq
  gid : ∀ p ∈ t.delayed, ∀ e ∈ t.pending, e.seq = p.2 → e.sendid = p.1
  dead : t.stopped = true → t.pending = []
  sdead : t.stopped = true → t.alive = false
  lseen : ∀ d ∈ t.log, d.seen = d.entry.event

theorem WF.guard_iff {t : Timer δ ε} (h : WF t) {e : Entry ε} (he : e ∈ t.pending) (key : Option SendId) :
    (key, e.seq) ∈ t.delayed ↔ e.sendid = key :=
  ⟨fun hm => h.gid _ hm e he rfl, fun hk => hk ▸ h.own e he⟩

/-- every entry handed to the timer and not dropped since, in firing order: what the scheduler
thread has popped so far, then its heap -/
def Timer.queue (t : Timer δ ε) : List (Entry ε) :=
  (t.log.filter (·.viaTimer)).map (·.entry) ++ t.pending

/-- every send carried out and not dropped since: delivered (directly or by the timer), then pending -/
def Timer.sent (t : Timer δ ε) : List (Entry ε) := t.log.map (·.entry) ++ t.pending

theorem mem_sent {t : Timer δ ε} {e : Entry ε} :
    e ∈ t.sent ↔ (∃ d ∈ t.log, d.entry = e) ∨ e ∈ t.pending := by
  simp [Timer.sent]

/-- the invariant in terms of the two lists: the timer's queue (with its past) is in pop order,
serial numbers identify sends -/
theorem wf_iff (t : Timer δ ε) : WF t ↔
    t.queue.Pairwise Entry.lt ∧ t.sent.Pairwise (fun a b => a.seq ≠ b.seq) ∧
    (∀ e ∈ t.sent, e.seq < t.nextSeq) ∧
    (∀ d ∈ t.log, d.entry.due ≤ d.time ∧ d.time ≤ t.now ∧ d.seen = d.entry.event) ∧
    (∀ e ∈ t.pending, ∀ key, (key, e.seq) ∈ t.delayed ↔ e.sendid = key) ∧
    (∀ p ∈ t.delayed, p.2 < t.nextSeq) ∧
    (t.stopped = true → t.pending = [] ∧ t.alive = false) := by
  simp only [Timer.queue, Timer.sent, List.pairwise_append, List.pairwise_map, List.pairwise_filter,
    List.forall_mem_map, List.forall_mem_append, List.mem_filter, and_imp]
  constructor
  · intro h
    exact ⟨⟨h.lsorted, h.sorted, h.lbefore⟩, ⟨h.lnodup, h.pnodup, h.ldisj⟩, ⟨h.lseq, h.pseq⟩,
      fun d hd => ⟨(h.ltime d hd).1, (h.ltime d hd).2, h.lseen d hd⟩,
      fun e he => h.guard_iff he, h.gseq, fun hs => ⟨h.dead hs, h.sdead hs⟩⟩
  · rintro ⟨⟨q1, q2, q3⟩, ⟨s1, s2, s3⟩, ⟨l1, l2⟩, hl, hg, gs, hst⟩
    exact {
      sorted := q2, lsorted := q1, lbefore := q3
      pnodup := s2, lnodup := s1, ldisj := s3
      pseq := l2, lseq := l1
      ltime := fun d hd => ⟨(hl d hd).1, (hl d hd).2.1⟩
      lseen := fun d hd => (hl d hd).2.2
      own := fun e he => (hg e he _).2 rfl
      gid := fun p hp e he hs => (hg e he p.1).1 (by rw [hs]; exact hp)
      gseq := gs
      dead := fun hs => (hst hs).1
      sdead := fun hs => (hst hs).2 }

theorem WF.initFull (hr : Nat) (d : δ) : WF (Timer.initFull hr d : Timer δ ε) :=
  (wf_iff _).2 (by simp [Timer.initFull, Timer.queue, Timer.sent])

theorem WF.init (d : δ) : WF (Timer.init d : Timer δ ε) := WF.initFull _ d

/-! ### operations that add nothing -/

/-- `t'` is `t` later, with some pending entries and some guards dropped, but no guard of an entry that
stays; the session thread may have ended; the scheduler thread has not stopped unless its heap is
gone and the session thread has ended -/
structure Drops (t t' : Timer δ ε) : Prop where
  log : t'.log = t.log
  nextSeq : t'.nextSeq = t.nextSeq
  now : t.now ≤ t'.now
  pending : t'.pending.Sublist t.pending
  delayed : ∀ p ∈ t'.delayed, p ∈ t.delayed
  own : ∀ e ∈ t'.pending, (e.sendid, e.seq) ∈ t.delayed → (e.sendid, e.seq) ∈ t'.delayed
  alive : t.alive = false → t'.alive = false
  stopped : t'.stopped = true → t.stopped = true ∨ (t'.pending = [] ∧ t'.alive = false)

theorem Drops.queue {t t' : Timer δ ε} (h : Drops t t') : t'.queue.Sublist t.queue := by
  unfold Timer.queue; rw [h.log]; exact (List.Sublist.refl _).append h.pending

theorem Drops.sent {t t' : Timer δ ε} (h : Drops t t') : t'.sent.Sublist t.sent := by
  unfold Timer.sent; rw [h.log]; exact (List.Sublist.refl _).append h.pending

theorem Drops.wf {t t' : Timer δ ε} (hd : Drops t t') (h : WF t) : WF t' := by
  obtain ⟨q, s, lt, hl, hg, gs, hst⟩ := (wf_iff t).1 h
  refine (wf_iff t').2 ⟨q.sublist hd.queue, s.sublist hd.sent, fun e he => hd.nextSeq ▸ lt e (hd.sent.subset he),
    fun d hd' => ?_, fun e he key => ?_, fun p hp => hd.nextSeq ▸ gs p (hd.delayed p hp), fun hs => ?_⟩
  · have h3 := hl d (hd.log ▸ hd')
    exact ⟨h3.1, Nat.le_trans h3.2.1 hd.now, h3.2.2⟩
  · have g := hg e (hd.pending.subset he)
    exact ⟨fun hm => (g key).1 (hd.delayed _ hm), fun hk => hk ▸ hd.own e he ((g _).2 rfl)⟩
  · rcases hd.stopped hs with hs | h'
    · exact ⟨List.sublist_nil.1 ((hst hs).1 ▸ hd.pending), hd.alive (hst hs).2⟩
    · exact h'

theorem Drops.same (t : Timer δ ε) {n : Nat} (hn : t.now ≤ n) (d : δ) (k : Nat) :
    Drops t { t with now := n, data := d, errors := k } :=
  ⟨rfl, rfl, hn, .refl _, fun _ h => h, fun _ _ h => h, id, Or.inl⟩

theorem Drops.refl (t : Timer δ ε) : Drops t t := .same t (Nat.le_refl _) t.data t.errors

theorem Drops.errors (t : Timer δ ε) (n : Nat) : Drops t { t with errors := n } :=
  .same t (Nat.le_refl _) t.data n

theorem Drops.tick (t : Timer δ ε) (t' : Nat) : Drops t (t.tick t') :=
  .same t (Nat.le_max_left ..) t.data t.errors

theorem Drops.assign (t : Timer δ ε) (f : δ → δ) : Drops t (t.assign f) := by
  unfold Timer.assign; split
  · exact .refl t
  · exact .same t (Nat.le_refl _) _ t.errors

theorem Drops.cancel (t : Timer δ ε) (id : SendId) : Drops t (t.cancel id) := by
  unfold Timer.cancel; split
  · exact .refl t
  · refine ⟨rfl, rfl, Nat.le_refl _, List.filter_sublist, fun _ h => (List.mem_filter.1 h).1,
      fun e he hg => ?_, fun h => h, Or.inl⟩
    -- an entry that stays has no guard under `id`: its own guard is under another key and stays
    have hn : (some id, e.seq) ∉ t.delayed := by simpa [hasGuard] using (List.mem_filter.1 he).2
    exact List.mem_filter.2 ⟨hg, decide_eq_true fun hid : e.sendid = some id => hn (hid ▸ hg)⟩

theorem Drops.terminate (t : Timer δ ε) : Drops t t.terminate := by
  refine ⟨rfl, rfl, Nat.le_refl _, List.filter_sublist, (fun _ h => nomatch h), fun e he hg => ?_,
    fun _ => rfl, Or.inl⟩
  -- an entry that stays had no guard at all
  have hn : ∀ p ∈ t.delayed, ¬ p.2 = e.seq := by simpa using (List.mem_filter.1 he).2
  exact absurd rfl (hn _ hg)

theorem Drops.stop (t : Timer δ ε) : Drops t t.stop := by
  unfold Timer.stop; split
  · exact .refl t
  · rename_i ha
    exact ⟨rfl, rfl, Nat.le_refl _, List.nil_sublist _, fun _ h => h, (fun _ he => nomatch he), id,
      fun _ => Or.inr ⟨rfl, by simpa using ha⟩⟩

theorem WF.assign {t : Timer δ ε} (h : WF t) (f : δ → δ) : WF (t.assign f) := (Drops.assign t f).wf h

theorem WF.cancel {t : Timer δ ε} (h : WF t) (id : SendId) : WF (t.cancel id) := (Drops.cancel t id).wf h

theorem WF.terminate {t : Timer δ ε} (h : WF t) : WF t.terminate := (Drops.terminate t).wf h

theorem hasGuard_iff {m : List (Option SendId × Nat)} {key : Option SendId} {g : Nat} :
    hasGuard m key g = true ↔ (key, g) ∈ m := by
  simp [hasGuard]

theorem cancel_pending {t : Timer δ ε} (h : WF t) (ha : t.alive = true) (id : SendId) :
    (t.cancel id).pending = t.pending.filter (fun e => e.sendid ≠ some id) := by
  unfold Timer.cancel
  rw [if_neg (by simp [ha])]
  refine List.filter_congr fun e he => ?_
  rw [Bool.eq_iff_iff, Bool.not_eq_true', ← Bool.not_eq_true, hasGuard_iff, h.guard_iff he]
  simp

/-- dropping every registered guard empties the heap: every pending entry has its guard registered -/
theorem terminate_pending {t : Timer δ ε} (h : WF t) : t.terminate.pending = [] := by
  simp only [Timer.terminate, List.filter_eq_nil_iff]
  intro e he
  have : t.delayed.any (fun p => decide (p.2 = e.seq)) = true :=
    List.any_eq_true.2 ⟨_, h.own e he, by simp⟩
  simp [this]

/-! ### the scheduler thread -/

theorem fireOne_pending (t : Timer δ ε) (x : Entry ε) (rest : List (Entry ε)) :
    (fireOne t x rest).pending = rest := rfl

theorem fireOne_log (t : Timer δ ε) (x : Entry ε) (rest : List (Entry ε)) :
    (fireOne t x rest).log = t.log ++ [⟨t.now, true, x, x.event⟩] := rfl

theorem fireOne_now (t : Timer δ ε) (x : Entry ε) (rest : List (Entry ε)) :
    (fireOne t x rest).now = t.now ∧ (fireOne t x rest).nextSeq = t.nextSeq ∧
    (fireOne t x rest).alive = t.alive ∧ (fireOne t x rest).data = t.data := ⟨rfl, rfl, rfl, rfl⟩

theorem queue_fireOne {t : Timer δ ε} {e : Entry ε} {rest : List (Entry ε)} (hp : t.pending = e :: rest) :
    (fireOne t e rest).queue = t.queue := by
  simp [Timer.queue, fireOne, hp]

theorem sent_fireOne {t : Timer δ ε} {e : Entry ε} {rest : List (Entry ε)} (hp : t.pending = e :: rest) :
    (fireOne t e rest).sent = t.sent := by
  simp [Timer.sent, fireOne, hp]

/-- the closure of the head entry: it removes its own guard only -/
theorem WF.fireOne {t : Timer δ ε} (h : WF t) {e : Entry ε} {rest : List (Entry ε)}
    (hp : t.pending = e :: rest) (hdue : e.due ≤ t.now) : WF (fireOne t e rest) := by
  obtain ⟨q, s, lt, hl, hg, gs, hst⟩ := (wf_iff t).1 h
  refine (wf_iff _).2 ⟨queue_fireOne hp ▸ q, sent_fireOne hp ▸ s, sent_fireOne hp ▸ lt,
    List.forall_mem_append.2 ⟨hl, List.forall_mem_singleton.2 ⟨hdue, Nat.le_refl _, rfl⟩⟩, ?_,
    fun p hp' => gs p (List.mem_filter.1 hp').1, ?_⟩
  · intro x hx key
    have hne : e.seq ≠ x.seq := (List.pairwise_cons.1 (hp ▸ h.pnodup)).1 x hx
    rw [← hg x (hp ▸ List.mem_cons_of_mem _ hx) key]
    exact ⟨fun hm => (List.mem_filter.1 hm).1,
      fun hm => List.mem_filter.2 ⟨hm, decide_eq_true fun hc => hne (congrArg Prod.snd hc).symm⟩⟩
  · intro hs; rw [(hst hs).1] at hp; cases hp

theorem wake_induction {P : Timer δ ε → Prop} {t : Timer δ ε} (h0 : P t)
    (hstep : ∀ (t : Timer δ ε) e rest, P t → t.pending = e :: rest → e.due ≤ t.now → P (fireOne t e rest)) :
    P t.wake := by
  have loop (f : Nat) : ∀ t, P t → P (fireLoop f t) := by
    induction f with
    | zero => exact fun _ h => h
    | succ f ih =>
      intro t h
      unfold fireLoop
      split
      · exact h
      · split
        · exact ih _ (hstep t _ _ h ‹_› ‹_›)
        · exact h
  unfold Timer.wake
  split
  · exact h0
  · exact loop _ t h0

theorem wake_keeps (t : Timer δ ε) :
    t.wake.queue = t.queue ∧ t.wake.sent = t.sent ∧ t.wake.nextSeq = t.nextSeq :=
  wake_induction (P := fun t' => t'.queue = t.queue ∧ t'.sent = t.sent ∧ t'.nextSeq = t.nextSeq)
    ⟨rfl, rfl, rfl⟩ fun _ _ _ h hp _ => ⟨(queue_fireOne hp).trans h.1, (sent_fireOne hp).trans h.2.1, h.2.2⟩

theorem WF.wake {t : Timer δ ε} (h : WF t) : WF t.wake :=
  wake_induction h fun _ _ _ h hp hdue => h.fireOne hp hdue

theorem fireLoop_not_due {t : Timer δ ε} (hs : t.pending.Pairwise Entry.lt) (f : Nat) (hf : t.pending.length ≤ f) :
    ∀ e ∈ (fireLoop f t).pending, t.now < e.due := by
  induction f generalizing t with
  | zero => rw [fireLoop, List.eq_nil_of_length_eq_zero (Nat.le_zero.1 hf)]; exact fun _ h => nomatch h
  | succ f ih =>
    unfold fireLoop
    split
    · rename_i hp; rw [hp]; exact fun _ h => nomatch h
    · rename_i x rest hp
      rw [hp] at hs hf
      split
      · exact ih (t := fireOne t x rest) (List.pairwise_cons.1 hs).2 (by simpa [fireOne] using hf)
      · intro e he
        rcases List.mem_cons.1 (hp ▸ he) with rfl | he
        · omega
        · have := (List.pairwise_cons.1 hs).1 e he
          unfold Entry.lt at this; omega

/-! ### `<send>` -/

/-- the `<send>` is carried out: the session is running, the delay is not negative, a delayed
send does not target `#_internal` (otherwise `SendParameters::execute` aborts with error.execution),
and `now + delay` is a date `chrono` can represent (otherwise, too, error.execution) -/
def Accepted (t : Timer δ ε) (tg : Str) (delay : Int) : Prop :=
  t.alive = true ∧ 0 ≤ delay ∧ ¬ (0 < delay ∧ tg = internalTarget) ∧ delay.toNat ≤ t.headroom

theorem send_rejected (t : Timer δ ε) (id : Option SendId) (tg : Str) (delay : Int) (mk : δ → ε)
    (h : ¬ Accepted t tg delay) :
    ∃ n, t.send id tg delay mk = { t with errors := n } := by
  unfold Accepted at h
  unfold Timer.send
  by_cases h1 : t.alive = false
  · exact ⟨_, by rw [if_pos h1]⟩
  by_cases h2 : delay < 0
  · exact ⟨_, by rw [if_neg h1, if_pos h2]⟩
  by_cases h3 : 0 < delay ∧ tg = internalTarget
  · exact ⟨_, by rw [if_neg h1, if_neg h2, if_pos h3]⟩
  by_cases h4 : t.headroom < delay.toNat
  · exact ⟨_, by rw [if_neg h1, if_neg h2, if_neg h3, if_pos h4]⟩
  · exact absurd ⟨by simpa using h1, by omega, h3, by omega⟩ h

/-- the state after a `<send>` that made the entry `e`: delivered at once if it is due now, put into
the heap with its guard registered otherwise -/
def Timer.accept (t : Timer δ ε) (e : Entry ε) : Timer δ ε :=
  if e.due = t.now then { t with nextSeq := t.nextSeq + 1, log := t.log ++ [⟨t.now, false, e, e.event⟩] }
  else { t with nextSeq := t.nextSeq + 1, pending := insertEntry e t.pending,
                delayed := (e.sendid, e.seq) :: t.delayed }

theorem send_accepted (t : Timer δ ε) (id : Option SendId) (tg : Str) (delay : Int) (mk : δ → ε)
    (h : Accepted t tg delay) :
    t.send id tg delay mk = t.accept ⟨t.now + delay.toNat, t.nextSeq, id, tg, mk t.data⟩ := by
  obtain ⟨ha, h0, hi, hh⟩ := h
  unfold Timer.send Timer.accept
  rw [if_neg (by simp [ha]), if_neg (by omega), if_neg hi, if_neg (by omega)]
  by_cases hz : delay = 0
  · subst hz; simp
  · simp only
    rw [if_neg hz, if_neg (by omega)]

theorem nextSeq_accept (t : Timer δ ε) (e : Entry ε) : (t.accept e).nextSeq = t.nextSeq + 1 := by
  unfold Timer.accept; split <;> rfl

theorem sent_accept_perm (t : Timer δ ε) (e : Entry ε) : (t.accept e).sent.Perm (e :: t.sent) := by
  unfold Timer.accept
  split
  · simp [Timer.sent]
  · exact ((insertEntry_perm _ _).append_left _).trans List.perm_middle

theorem queue_accept (t : Timer δ ε) (e x : Entry ε) (hx : x ∈ t.queue) : x ∈ (t.accept e).queue := by
  unfold Timer.accept
  split
  · simpa [Timer.queue] using hx
  · exact (List.mem_append.1 hx).elim (List.mem_append_left _)
      fun h => List.mem_append_right _ (mem_insertEntry.2 (Or.inr h))

theorem WF.accept {t : Timer δ ε} (h : WF t) (ha : t.alive = true) {e : Entry ε} (eseq : e.seq = t.nextSeq)
    (edue : t.now ≤ e.due) : WF (t.accept e) := by
  obtain ⟨q, s, lt, hl, hg, gs, hst⟩ := (wf_iff t).1 h
  have hperm := sent_accept_perm t e
  have s' : (t.accept e).sent.Pairwise (fun a b => a.seq ≠ b.seq) :=
    (hperm.pairwise_iff Ne.symm).2
      (List.pairwise_cons.2 ⟨fun x hx => eseq ▸ Nat.ne_of_gt (lt x hx), s⟩)
  have lt' : ∀ x ∈ (t.accept e).sent, x.seq < (t.accept e).nextSeq := by
    intro x hx
    rw [nextSeq_accept]
    rcases List.mem_cons.1 (hperm.mem_iff.1 hx) with rfl | hx
    · exact eseq ▸ Nat.lt_succ_self _
    · exact Nat.lt_succ_of_lt (lt x hx)
  have hns : ¬ t.stopped = true := fun hs => by simp [(hst hs).2] at ha
  unfold Timer.accept at s' lt' ⊢
  by_cases hz : e.due = t.now
  · rw [if_pos hz] at s' lt' ⊢
    refine (wf_iff _).2 ⟨?_, s', lt',
      List.forall_mem_append.2 ⟨hl, List.forall_mem_singleton.2 ⟨Nat.le_of_eq hz, Nat.le_refl _, rfl⟩⟩, hg,
      fun p hp => Nat.lt_succ_of_lt (gs p hp), fun hs => absurd hs hns⟩
    simpa [Timer.queue] using q
  rw [if_neg hz] at s' lt' ⊢
  have hfresh : ∀ x ∈ t.pending, x.seq < e.seq := fun x hx => eseq ▸ lt x (List.mem_append_right _ hx)
  refine (wf_iff _).2 ⟨?_, s', lt', hl, ?_, ?_, fun hs => absurd hs hns⟩
  · -- scheduled: due after everything delivered so far, newer than everything in the heap
    obtain ⟨q1, q2, q3⟩ := List.pairwise_append.1 q
    refine List.pairwise_append.2 ⟨q1, insertEntry_sorted q2 hfresh, fun a ha' b hb => ?_⟩
    rcases mem_insertEntry.1 hb with rfl | hb
    · obtain ⟨d, hd, rfl⟩ := List.mem_map.1 ha'
      have := hl d (List.mem_filter.1 hd).1
      unfold Entry.lt; omega
    · exact q3 a ha' b hb
  · -- the new guard has the next serial number: no older guard has it, no older entry has it
    intro x hx key
    rw [List.mem_cons, Prod.mk.injEq]
    rcases mem_insertEntry.1 hx with rfl | hx
    · have : (key, x.seq) ∉ t.delayed := fun hm => Nat.lt_irrefl _ (eseq ▸ gs _ hm)
      simp [this, eq_comm]
    · simp [Nat.ne_of_lt (hfresh x hx), hg x hx key]
  · intro p hp
    rcases List.mem_cons.1 hp with rfl | hp
    · exact eseq ▸ Nat.lt_succ_self _
    · exact Nat.lt_succ_of_lt (gs p hp)

theorem step_cases (t : Timer δ ε) (op : Op δ ε) :
    Drops t (t.step op) ∨ t.step op = t.wake ∨
      ∃ e, t.step op = t.accept e ∧ t.alive = true ∧ e.seq = t.nextSeq ∧ t.now ≤ e.due := by
  cases op with
  | assign f => exact .inl (Drops.assign t f)
  | tick t' => exact .inl (Drops.tick t t')
  | terminate => exact .inl (Drops.terminate t)
  | stop => exact .inl (Drops.stop t)
  | cancel id => exact .inl (Drops.cancel t id)
  | wake => exact .inr (.inl rfl)
  | send id tg d mk =>
    by_cases hacc : Accepted t tg d
    · exact .inr (.inr ⟨_, send_accepted t id tg d mk hacc, hacc.1, rfl, Nat.le_add_right ..⟩)
    · obtain ⟨n, hn⟩ := send_rejected t id tg d mk hacc
      exact .inl (show Drops t (t.send id tg d mk) from hn ▸ Drops.errors t n)

theorem WF.step {t : Timer δ ε} (h : WF t) (op : Op δ ε) : WF (t.step op) := by
  rcases step_cases t op with hd | hw | ⟨e, he, ha, eseq, edue⟩
  · exact hd.wf h
  · exact hw ▸ h.wake
  · exact he ▸ h.accept ha eseq edue

theorem WF.run {t : Timer δ ε} (h : WF t) (ops : List (Op δ ε)) : WF (t.run ops) := by
  induction ops generalizing t with
  | nil => exact h
  | cons op ops ih => exact ih (h.step op)

/-- an entry of the later state `t'` with a serial number `t` has given out is an entry of `t` -/
structure Frame (t t' : Timer δ ε) : Prop where
  sent : ∀ e ∈ t'.sent, e.seq < t.nextSeq → e ∈ t.sent
  next : t.nextSeq ≤ t'.nextSeq

theorem Frame.refl (t : Timer δ ε) : Frame t t := ⟨fun _ h _ => h, Nat.le_refl _⟩

theorem Frame.trans {a b c : Timer δ ε} (h1 : Frame a b) (h2 : Frame b c) : Frame a c :=
  ⟨fun e he hlt => h1.sent e (h2.sent e he (Nat.lt_of_lt_of_le hlt h1.next)) hlt, Nat.le_trans h1.next h2.next⟩

theorem Frame.log {t t' : Timer δ ε} (h : Frame t t') {d : Delivery ε} (hd : d ∈ t'.log)
    (hlt : d.entry.seq < t.nextSeq) : d.entry ∈ t.sent :=
  h.sent d.entry (mem_sent.2 (Or.inl ⟨d, hd, rfl⟩)) hlt

theorem Frame.step (t : Timer δ ε) (op : Op δ ε) : Frame t (t.step op) := by
  rcases step_cases t op with hd | hw | ⟨e, he, -, eseq, -⟩
  · exact ⟨fun _ hx _ => hd.sent.subset hx, Nat.le_of_eq hd.nextSeq.symm⟩
  · rw [hw]
    exact ⟨fun _ hx _ => (wake_keeps t).2.1 ▸ hx, Nat.le_of_eq (wake_keeps t).2.2.symm⟩
  · rw [he]
    refine ⟨fun x hx hlt => ?_, by rw [nextSeq_accept]; exact Nat.le_succ _⟩
    rcases List.mem_cons.1 ((sent_accept_perm t e).mem_iff.1 hx) with rfl | hx
    · exact absurd hlt (eseq ▸ Nat.lt_irrefl _)
    · exact hx

theorem Frame.run (t : Timer δ ε) (ops : List (Op δ ε)) : Frame t (t.run ops) := by
  induction ops generalizing t with
  | nil => exact .refl t
  | cons op ops ih => exact (Frame.step t op).trans (ih _)

theorem keep_step {t : Timer δ ε} (h : WF t) {e : Entry ε} (he : e ∈ t.queue) (op : Op δ ε)
    (hc : ∀ id, op = .cancel id → e.sendid ≠ some id) (hterm : op ≠ .terminate ∧ op ≠ .stop) :
    e ∈ (t.step op).queue := by
  cases op with
  | terminate => exact absurd rfl hterm.1
  | stop => exact absurd rfl hterm.2
  | tick t' => exact he
  | assign f =>
    show e ∈ (t.assign f).queue
    unfold Timer.assign; split <;> exact he
  | wake => exact (wake_keeps t).1.symm ▸ he
  | cancel id =>
    show e ∈ (t.cancel id).queue
    by_cases ha : t.alive = true
    · rcases List.mem_append.1 he with he | he
      · exact List.mem_append_left _ (by unfold Timer.cancel; split <;> exact he)
      · refine List.mem_append_right _ ?_
        rw [cancel_pending h ha]
        exact List.mem_filter.2 ⟨he, decide_eq_true (hc id rfl)⟩
    · unfold Timer.cancel; rw [if_pos (by simpa using ha)]; exact he
  | send id tg d mk =>
    show e ∈ (t.send id tg d mk).queue
    by_cases hacc : Accepted t tg d
    · rw [send_accepted t id tg d mk hacc]; exact queue_accept t _ e he
    · obtain ⟨n, hn⟩ := send_rejected t id tg d mk hacc
      rw [hn]; exact he

theorem keep_run {t : Timer δ ε} (h : WF t) {e : Entry ε} (he : e ∈ t.queue) (ops : List (Op δ ε))
    (hc : ∀ op ∈ ops, ∀ id, op = .cancel id → e.sendid ≠ some id)
    (hterm : ∀ op ∈ ops, op ≠ .terminate ∧ op ≠ .stop) : e ∈ (t.run ops).queue := by
  induction ops generalizing t with
  | nil => exact he
  | cons op ops ih =>
    exact ih (h.step op) (keep_step h he op (hc op (List.mem_cons_self ..)) (hterm op (List.mem_cons_self ..)))
      (fun o ho => hc o (List.mem_cons_of_mem _ ho)) (fun o ho => hterm o (List.mem_cons_of_mem _ ho))

theorem wake_delivers {t : Timer δ ε} (h : WF t) {e : Entry ε} (he : e ∈ t.queue) (hdue : e.due ≤ t.now) :
    ∃ d ∈ t.wake.log, d.entry = e ∧ d.viaTimer = true := by
  have hq : ∀ x ∈ t.wake.pending, t.now < x.due := by
    unfold Timer.wake
    split
    · rename_i hs; rw [h.dead hs]; exact fun _ hx => nomatch hx
    · exact fireLoop_not_due h.sorted _ (Nat.le_refl _)
  rcases List.mem_append.1 ((wake_keeps t).1.symm ▸ he) with hm | hm
  · obtain ⟨d, hd, hde⟩ := List.mem_map.1 hm
    exact ⟨d, (List.mem_filter.1 hd).1, hde, (List.mem_filter.1 hd).2⟩
  · have := hq e hm; omega

theorem dead_run (t : Timer δ ε) (ha : t.alive = false) (hp : t.pending = [])
    (ops : List (Op δ ε)) : (t.run ops).log = t.log ∧ (t.run ops).pending = [] := by
  induction ops generalizing t with
  | nil => exact ⟨rfl, hp⟩
  | cons op ops ih =>
    have hstep : (t.step op).alive = false ∧ (t.step op).pending = [] ∧ (t.step op).log = t.log := by
      rcases step_cases t op with hd | hw | ⟨e, -, ha', -⟩
      · exact ⟨hd.alive ha, List.sublist_nil.1 (hp ▸ hd.pending), hd.log⟩
      · rw [hw]; unfold Timer.wake; rw [hp]
        split <;> exact ⟨ha, hp, rfl⟩
      · rw [ha] at ha'; cases ha'
    have := ih (t.step op) hstep.1 hstep.2.1
    exact ⟨this.1.trans hstep.2.2, this.2⟩

end Rfsm.Timer
