import Rfsm.Model.Descriptor
/-!
Lemmas for C19.  `tokens` has the left inverse `join`, and `tokens (e ++ dot :: r) = tokens e ++ tokens r`:
so the descriptor's byte test (`descMatch`: a prefix that ends the name or is followed by a dot) is a
prefix test on token lists (`descMatch_iff`).  Then the equations of the strip loop `normRev`.
-/
namespace Rfsm.Descriptor

/-- left inverse of `tokens` (`join_tokens`) -/
def join : List Str → Str
  | [] => []
  | [t] => t
  | t :: u :: ts => t ++ dot :: join (u :: ts)

theorem tokens_ne_nil (s : Str) : tokens s ≠ [] := by
  induction s with
  | nil => simp [tokens]
  | cons c cs ih =>
    unfold tokens
    split
    · simp
    · split <;> simp

theorem tokens_cons_dot (cs : Str) : tokens (dot :: cs) = [] :: tokens cs := by
  simp [tokens]

theorem tokens_cons_ne {c : Nat} (h : c ≠ dot) (cs : Str) {t : Str} {ts : List Str}
    (hts : tokens cs = t :: ts) : tokens (c :: cs) = (c :: t) :: ts := by
  rw [tokens, if_neg h, hts]

theorem join_tokens (s : Str) : join (tokens s) = s := by
  induction s with
  | nil => rfl
  | cons c cs ih =>
    obtain ⟨t, ts, hts⟩ := List.exists_cons_of_ne_nil (tokens_ne_nil cs)
    rw [hts] at ih
    by_cases h : c = dot
    · rw [h, tokens_cons_dot, hts, join, ih, List.nil_append]
    · rw [tokens_cons_ne h cs hts]
      cases ts <;> simpa [join] using ih

theorem tokens_append_dot (e r : Str) : tokens (e ++ dot :: r) = tokens e ++ tokens r := by
  induction e with
  | nil => simp [tokens]
  | cons c cs ih =>
    simp only [List.cons_append]
    by_cases h : c = dot
    · subst h; rw [tokens_cons_dot, tokens_cons_dot, ih]; simp
    · obtain ⟨t, ts, hts⟩ := List.exists_cons_of_ne_nil (tokens_ne_nil cs)
      rw [tokens_cons_ne h cs hts, tokens_cons_ne h (cs ++ dot :: r) (t := t) (ts := ts ++ tokens r)]
      · simp
      · rw [ih, hts]; simp

theorem join_append {a b : List Str} (ha : a ≠ []) (hb : b ≠ []) :
    join (a ++ b) = join a ++ dot :: join b := by
  induction a with
  | nil => exact absurd rfl ha
  | cons t ts ih =>
    cases ts with
    | nil =>
      cases b with
      | nil => exact absurd rfl hb
      | cons u us => simp [join]
    | cons u us =>
      have := ih (by simp)
      simp only [List.cons_append] at this ⊢
      simp [join, this]

theorem descMatch_iff_append (e name : Str) :
    descMatch e name = true ↔ name = e ∨ ∃ r, name = e ++ dot :: r := by
  simp only [descMatch, Bool.and_eq_true, List.isPrefixOf_iff_prefix, Bool.or_eq_true, beq_iff_eq]
  constructor
  · rintro ⟨⟨r, rfl⟩, hb⟩
    cases r with
    | nil => simp
    | cons c cs => exact Or.inr ⟨cs, by simpa using hb⟩
  · rintro (rfl | ⟨r, rfl⟩) <;> simp

theorem descMatch_iff (e name : Str) :
    descMatch e name = true ↔ tokens e <+: tokens name := by
  rw [descMatch_iff_append]
  constructor
  · rintro (rfl | ⟨r, rfl⟩)
    · exact List.prefix_refl _
    · rw [tokens_append_dot]; exact List.prefix_append _ _
  · rintro ⟨ts, hts⟩
    have hn : name = join (tokens e ++ ts) := by rw [hts, join_tokens]
    cases ts with
    | nil => exact Or.inl (by simpa [join_tokens] using hn)
    | cons t ts =>
      rw [join_append (tokens_ne_nil e) (by simp), join_tokens] at hn
      exact Or.inr ⟨_, hn⟩

theorem normRev_dot (r : Str) : normRev (dot :: r) = normRev r := by
  cases r with
  | nil => simp [normRev]
  | cons b r => simp [normRev, dot, star]

theorem normRev_star_dot (r : Str) : normRev (star :: dot :: r) = normRev r := by
  simp [normRev]

/-- a stored descriptor never ends in `.` or `.*`: reversed, `normRev r` starts with neither -/
theorem normRev_head (r t : Str) : normRev r ≠ dot :: t ∧ normRev r ≠ star :: dot :: t := by
  fun_induction normRev r <;> simp_all

theorem normRev_idem (r : Str) : normRev (normRev r) = normRev r := by
  have h := normRev_head r
  generalize normRev r = s at h
  match s with
  | [] => rfl
  | [a] => rw [normRev, if_neg fun e => (h []).1 (by rw [e])]
  | a :: b :: t =>
    rw [normRev, if_neg fun e => (h t).2 (by rw [e.1, e.2]), if_neg fun e => (h (b :: t)).1 (by rw [e])]

end Rfsm.Descriptor
