import Rfsm.Proofs.ConformantLemmas
import Rfsm.Proofs.SelectLemmas
/-!
Tree lemmas about the parent pointers of a conformant document (M-INT): `isDescendant` is
transitive and asymmetric, hence exit sets are closed under active descendants.

`ancestors` walks the parent pointers with fuel `d.states.length + 1`.  `conformantB` makes the walk
from every state end at the root (whose parent is 0) within that fuel, and makes document ids
strictly decrease along it.
-/
namespace Rfsm.Interp

/-- what the proofs need of the parent pointers -/
structure TreeLike (d : Doc) : Prop where
  rootParent : parentOf d d.root = 0
  /-- document order: a parent precedes its children -/
  docLt : ∀ x, parentOf d x ≠ 0 → docIdOf d (parentOf d x) < docIdOf d x
  /-- walking up from any state other than the root reaches the root within the fuel -/
  rootReach : ∀ x, parentOf d x ≠ 0 → d.root ∈ ancestors d x

theorem ancestorsAux_mono (d : Doc) : ∀ (f g c a : Nat), f ≤ g → a ∈ ancestorsAux d f c → a ∈ ancestorsAux d g c := by
  intro f
  induction f with
  | zero => intro g c a _ h; simp [ancestorsAux] at h
  | succ f ih =>
    intro g c a hfg h
    obtain ⟨g, rfl⟩ : ∃ g', g = g' + 1 := ⟨g - 1, by omega⟩
    rw [mem_ancestorsAux_succ] at h ⊢
    exact ⟨h.1, h.2.imp id (ih g _ a (by omega))⟩

/-- a walk that has reached the root is complete: more fuel adds nothing -/
theorem ancestorsAux_stable (d : Doc) (hr : parentOf d d.root = 0) :
    ∀ (f g c a : Nat), d.root ∈ ancestorsAux d f c → a ∈ ancestorsAux d g c → a ∈ ancestorsAux d f c := by
  intro f
  induction f with
  | zero => intro g c a h _; simp [ancestorsAux] at h
  | succ f ih =>
    intro g c a h ha
    cases g with
    | zero => simp [ancestorsAux] at ha
    | succ g =>
      rw [mem_ancestorsAux_succ] at h ha ⊢
      refine ⟨h.1, ha.2.imp id fun ha => ?_⟩
      rcases h.2 with h | h
      · -- c is the root: nothing above it
        rw [← h, hr, ancestorsAux_zero] at ha
        cases ha
      · exact ih g _ a h ha

/-- transitivity along a complete walk -/
theorem ancestorsAux_trans (d : Doc) (hr : parentOf d d.root = 0) :
    ∀ (f g c p q : Nat), d.root ∈ ancestorsAux d f c → p ∈ ancestorsAux d f c →
      q ∈ ancestorsAux d g (parentOf d p) → q ∈ ancestorsAux d f c := by
  intro f
  induction f with
  | zero => intro g c p q h _ _; simp [ancestorsAux] at h
  | succ f ih =>
    intro g c p q h hp hq
    rw [mem_ancestorsAux_succ] at h hp ⊢
    refine ⟨h.1, Or.inr ?_⟩
    rcases h.2 with h | h
    · -- c is the root: `p` is the root, and nothing is above it
      rcases hp.2 with rfl | hp
      · rw [← h, hr, ancestorsAux_zero] at hq; cases hq
      · rw [← h, hr, ancestorsAux_zero] at hp; cases hp
    · rcases hp.2 with rfl | hp
      · exact ancestorsAux_stable d hr f g _ q h hq
      · exact ih g _ p q h hp hq

theorem ancestorsAux_docLt {d : Doc} (ht : TreeLike d) :
    ∀ (f x a : Nat), a ∈ ancestorsAux d f (parentOf d x) → docIdOf d a < docIdOf d x
  | 0, _, _, h => by simp [ancestorsAux] at h
  | f + 1, x, a, h => by
    obtain ⟨hc, rfl | h⟩ := mem_ancestorsAux_succ.1 h
    · exact ht.docLt x hc
    · exact Nat.lt_trans (ancestorsAux_docLt ht f _ a h) (ht.docLt x hc)

theorem isDescendant_iff {d : Doc} {x p : Nat} :
    isDescendant d x p = true ↔ x ≠ 0 ∧ p ≠ 0 ∧ x ≠ p ∧ p ∈ ancestors d x := by
  unfold isDescendant
  split
  · rename_i h
    simp only [Bool.false_eq_true, false_iff]
    rintro ⟨h1, h2, h3, _⟩
    exact h.elim h1 fun h => h.elim h2 h3
  · rename_i h
    simp only [not_or] at h
    simp [h]

theorem parent_ne_zero_of_mem_ancestors {d : Doc} {x a : Nat} (h : a ∈ ancestors d x) : parentOf d x ≠ 0 := by
  intro h0
  unfold ancestors at h
  rw [h0, ancestorsAux_zero] at h
  simp at h

theorem isDescendant_docLt {d : Doc} (ht : TreeLike d) {x p : Nat} (h : isDescendant d x p = true) :
    docIdOf d p < docIdOf d x := by
  obtain ⟨_, _, _, hm⟩ := isDescendant_iff.1 h
  exact ancestorsAux_docLt ht _ x p hm

theorem isDescendant_trans {d : Doc} (ht : TreeLike d) {x p q : Nat}
    (h1 : isDescendant d x p = true) (h2 : isDescendant d p q = true) : isDescendant d x q = true := by
  have hl1 := isDescendant_docLt ht h1
  have hl2 := isDescendant_docLt ht h2
  obtain ⟨hx, _, _, hm1⟩ := isDescendant_iff.1 h1
  obtain ⟨_, hq, _, hm2⟩ := isDescendant_iff.1 h2
  refine isDescendant_iff.2 ⟨hx, hq, ?_, ?_⟩
  · intro e; subst e; omega
  · have hroot := ht.rootReach x (parent_ne_zero_of_mem_ancestors hm1)
    exact ancestorsAux_trans d ht.rootParent _ _ _ p q hroot hm1 hm2

theorem isDescendant_asymm {d : Doc} (ht : TreeLike d) {x p : Nat}
    (h1 : isDescendant d x p = true) : isDescendant d p x = false := by
  cases h2 : isDescendant d p x with
  | false => rfl
  | true =>
    have := isDescendant_docLt ht h1
    have := isDescendant_docLt ht h2
    omega

theorem isDescendant_parent {d : Doc} (ht : TreeLike d) {x : Nat} (hp : parentOf d x ≠ 0) :
    isDescendant d x (parentOf d x) = true := by
  have hlt := ht.docLt x hp
  refine isDescendant_iff.2
    ⟨by rintro rfl; exact hp rfl, hp, fun e => ?_, mem_ancestorsAux_succ.2 ⟨hp, Or.inl rfl⟩⟩
  rw [← e] at hlt
  omega

/-! ### exit sets and exit order on a tree; `conformantB` gives `TreeLike` -/

theorem computeExitSet_descendant_closed {d : Doc} (ht : TreeLike d) (hv : Table) (cfg ts : List Nat)
    {p x : Nat} (hp : p ∈ computeExitSet d hv cfg ts) (hx : x ∈ cfg) (hd : isDescendant d x p = true) :
    x ∈ computeExitSet d hv cfg ts := by
  obtain ⟨_, tid, htid, hne, hdom⟩ := mem_computeExitSet.1 hp
  exact mem_computeExitSet.2 ⟨hx, tid, htid, hne, isDescendant_trans ht hd hdom⟩

/-- in a list sorted by descending document id, a descendant stands before its ancestor -/
theorem descendant_before_ancestor {d : Doc} (ht : TreeLike d) {order l1 l2 : List Nat} {x p : Nat}
    (hs : order.Pairwise (fun a b => docIdOf d b ≤ docIdOf d a))
    (hsplit : order = l1 ++ p :: l2) (hx : x ∈ order) (hd : isDescendant d x p = true) : x ∈ l1 := by
  have hlt := isDescendant_docLt ht hd
  subst hsplit
  rcases List.mem_append.1 hx with h | h
  · exact h
  · rcases List.mem_cons.1 h with h | h
    · subst h; omega
    · have hp := (List.pairwise_append.1 hs).2.1
      have := (List.pairwise_cons.1 hp).1 x h
      omega

theorem conformant_treeLike {d : Doc} (h : conformantB d = true) : TreeLike d := by
  have hr := (conformant_root h).2.2
  have ok : ∀ x, parentOf d x ≠ 0 → x ≠ d.root ∧ StateOK d x := fun x hx =>
    ⟨fun e => hx (e ▸ hr), conformant_state h (getState_ne_default_of_parent hx)⟩
  exact ⟨hr, fun x hx => ((ok x hx).2.parent.resolve_left (ok x hx).1).1,
    fun x hx => (ok x hx).2.rootReach.resolve_left (ok x hx).1⟩

end Rfsm.Interp
