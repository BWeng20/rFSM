import Rfsm.Proofs.ReaderStates
import Rfsm.Proofs.ReaderContent
/-!
C04 (c), simulation: on trees of states the reader (`step` on `<state id>`, `<transition target/>`,
`</state>`) does to the view of its state table exactly what `vdecl` / `vref` / `amT` do (`simTree`, `simF`),
whether or not the names are distinct.
-/
namespace Rfsm.Reader
open Rfsm.Descriptor (Str)

theorem findName_view (l : List State) (n : Str) : findName l n = vfind (l.map vOf) n := by
  induction l with
  | nil => rfl
  | cons s r ih => simp [findName, vfind, vOf, ih]

theorem view_getOrCreate (f : Fsm) (n : Str) :
    view (getOrCreateState f n false).2 = vref (view f) n ∧
    (getOrCreateState f n false).1 = (vfind (vref (view f) n) n).getD 0 := by
  unfold getOrCreateState vref
  rw [findName_view]
  show _ ∧ _
  cases hf : vfind (List.map vOf f.states) n with
  | some i => simp [view, hf]
  | none => simp [view, hf, vfind_append, vOf]

theorem view_parseStateSpec (f : Fsm) (ns : List Str) (acc : List Nat) :
    view (parseStateSpec f ns acc).2 = ns.foldl vref (view f) := by
  induction ns generalizing f acc with
  | nil => simp [parseStateSpec]
  | cons n r ih =>
    simp only [parseStateSpec, List.foldl_cons]
    rw [ih, (view_getOrCreate f n).1]

theorem map_modifyNth {α β} (h : α → β) (g : α → α) (g' : β → β) (hg : ∀ x, h (g x) = g' (h x)) (l : List α)
    (k : Nat) :
    (modifyNth g l k).map h = modifyNth g' (l.map h) k := by
  induction l generalizing k with
  | nil => simp [modifyNth]
  | cons x xs ih => cases k <;> simp [modifyNth, hg, ih]

theorem view_modState (f : Fsm) (i : Nat) (g : State → State) (g' : V → V) (hi : i ≠ 0)
    (hg : ∀ s, vOf (g s) = g' (vOf s)) : view (modState f i g) = vmod (view f) i g' := by
  simp [view, modState, vmod, hi, map_modifyNth vOf g g' hg]

theorem view_modState_id (f : Fsm) (i : Nat) (g : State → State) (hg : ∀ s, vOf (g s) = vOf s) :
    view (modState f i g) = view f := by
  simp only [view, modState]
  rw [map_modifyNth vOf g id hg]
  generalize f.states.map vOf = l
  generalize i - 1 = k
  induction l generalizing k with
  | nil => simp [modifyNth]
  | cons x xs ih => cases k <;> simp [modifyNth, ih]

theorem getState_view (f : Fsm) (i : Nat) : (getState f i).map vOf = vget (view f) i := by
  unfold getState vget view
  by_cases h : i = 0 <;> simp [h]

theorem getState_some_of_vget {f : Fsm} {i : Nat} {v : V} (h : vget (view f) i = some v) :
    ∃ s, getState f i = some s := by
  rw [← getState_view] at h
  cases hs : getState f i with
  | none => rw [hs] at h; simp at h
  | some s => exact ⟨s, rfl⟩

theorem getState_eq_none_iff (f : Fsm) (i : Nat) : getState f i = none ↔ i = 0 ∨ f.states.length < i := by
  unfold getState
  by_cases h : i = 0
  · simp [h]
  · simp [h]; omega

/-- `get_or_create_state_with_attributes` for `<state id=n>` inside state `p` is `vdecl` on the view -/
theorem decl_sim (σ : RS) (a : Attrs) (n : Str) (p : Nat) (hp : p ≠ 0)
    (hok : IdsOk (view σ.fsm)) (hpv : ∃ v, vget (view σ.fsm) p = some v)
    (hid : getAttr a a_id = some n) (hin : getAttr a a_initial = none) :
    ∃ F, getOrCreateStateWithAttributes σ a false p =
        .ok ((vdecl (view σ.fsm) n p σ.nextDoc).1, { σ with nextDoc := σ.nextDoc + 1, fsm := F }) ∧
      view F = (vdecl (view σ.fsm) n p σ.nextDoc).2 := by
  obtain ⟨hv1, hi1⟩ := view_getOrCreate σ.fsm n
  obtain ⟨i, v0, hi0, hfi, hv0, _⟩ := vref_entry hok n
  obtain ⟨pv, hpv⟩ := hpv
  -- the declared state and the parent exist in the table after the reference
  have hlen : (getOrCreateState σ.fsm n false).2.states.length = (vref (view σ.fsm) n).length := by
    rw [← hv1]; simp [view]
  have hile := (le_of_vget hv0).2
  have hple := Nat.le_trans (le_of_vget hpv).2 (vref_ext hok n).len
  have hi : (getOrCreateState σ.fsm n false).1 = i := by rw [hi1, hfi]; rfl
  rw [vdecl_eq _ n p σ.nextDoc hp hfi]
  simp only [getOrCreateStateWithAttributes, hid, hin, hi]
  split
  · rename_i hnone
    rw [getState_eq_none_iff] at hnone; omega
  · rw [if_pos hp]
    split
    · rename_i hnone
      rw [getState_eq_none_iff] at hnone
      simp only [modState, modifyNth_length] at hnone; omega
    · refine ⟨_, rfl, ?_⟩
      exact (view_modState _ p _ _ hp (by intro s; simp [vOf])).trans
        (congrArg (vmod · p _)
          ((view_modState _ i _ _ hi0 (by intro s; simp [vOf, hp])).trans (congrArg (vmod · i _) hv1)))

/-- a reader state between state elements: inside `<scxml>` or a `<state>` whose id is `p`.  `nid`: a `<transition>`
gets the id `nextId` (its region is `nextId + 1`), and `end_transition` rejects a current transition 0
(`currentTransitionUnknown`). -/
structure SR (σ : RS) (p : Nat) : Prop where
  raw : σ.raw = none
  tag : σ.cur.tag = .scxml ∨ σ.cur.tag = .state
  cur : σ.cur.state = p
  p0 : p ≠ 0
  ok : IdsOk (view σ.fsm)
  valid : p ≤ (view σ.fsm).length
  nid : σ.nextId ≠ 0

theorem step_startState (σ : RS) (p : Nat) (n : Str) (h : SR σ p) :
    ∃ σ', step σ (.start t_state [(a_id, n)]) = .ok σ' ∧ σ'.raw = none ∧
      σ'.cur = { σ.cur with state := (vdecl (view σ.fsm) n p σ.nextDoc).1, tag := .state } ∧
      σ'.stack = σ.cur :: σ.stack ∧ σ'.nextId = σ.nextId ∧ view σ'.fsm = (vdecl (view σ.fsm) n p σ.nextDoc).2 ∧
      σ'.nextDoc = σ.nextDoc + 1 := by
  have hk : ¬ a_id = a_initial := by decide
  obtain ⟨F, hd, hview⟩ := decl_sim (σ.push .state) [(a_id, n)] n p h.p0
    h.ok (vget_of_le h.p0 h.valid) (by simp [getAttr]) (by simp [getAttr, hk])
  refine ⟨setCurState { σ.push .state with nextDoc := σ.nextDoc + 1, fsm := F } (vdecl (view σ.fsm) n p σ.nextDoc).1,
    ?_, h.raw, rfl, rfl, rfl, hview, rfl⟩
  have hcs : (σ.push .state).cur.state = p := h.cur
  have hmem : σ.cur.tag = Tag.scxml ∨ σ.cur.tag = Tag.state ∨ σ.cur.tag = Tag.parallel := by
    rcases h.tag with h | h <;> simp [h]
  rw [step_start h.raw _ (t := .state) (by decide) (by decide)]
  simp [startElement, startStateLike, verifyParent, RS.parentTag, bind, Except.bind, hcs, hd]
  simp [RS.push, hmem, setCurState]

theorem tget_append_self (ts : List Transition) (t : Transition) : ∃ t', tget (ts ++ [t]) t.id = some t' := by
  induction ts with
  | nil => exact ⟨t, by simp [tget]⟩
  | cons x xs ih =>
    simp only [List.cons_append, tget]
    split
    · exact ⟨x, rfl⟩
    · exact ih

@[simp] theorem modState_transitions (f : Fsm) (i : Nat) (g : State → State) : (modState f i g).transitions = f.transitions := rfl
@[simp] theorem modState_regions (f : Fsm) (i : Nat) (g : State → State) : (modState f i g).regions = f.regions := rfl
@[simp] theorem modState_datamodel (f : Fsm) (i : Nat) (g : State → State) : (modState f i g).datamodel = f.datamodel := rfl
@[simp] theorem modState_bindingLate (f : Fsm) (i : Nat) (g : State → State) : (modState f i g).bindingLate = f.bindingLate := rfl
@[simp] theorem modState_version (f : Fsm) (i : Nat) (g : State → State) : (modState f i g).version = f.version := rfl
@[simp] theorem modState_name (f : Fsm) (i : Nat) (g : State → State) : (modState f i g).name = f.name := rfl
@[simp] theorem modState_pseudoRoot (f : Fsm) (i : Nat) (g : State → State) : (modState f i g).pseudoRoot = f.pseudoRoot := rfl
@[simp] theorem modState_script (f : Fsm) (i : Nat) (g : State → State) : (modState f i g).script = f.script := rfl

theorem view_states (f : Fsm) (l : List State) (h : l = f.states) (f' : Fsm) (h' : f'.states = l) : view f' = view f := by
  simp [view, h', h]

/-- `<transition target=tg/>` inside a state: references only -/
theorem step_transition (σ : RS) (p : Nat) (tg : Str) (h : SR σ p) (htag : σ.cur.tag = .state) :
    ∃ σ', step σ (.empty t_transition [(a_target, tg)]) = .ok σ' ∧ σ'.raw = none ∧ σ'.cur = σ.cur ∧
      σ'.stack = σ.stack ∧ σ'.nextId ≠ 0 ∧ view σ'.fsm = (splitAsciiWs tg).foldl vref (view σ.fsm) ∧
      σ'.nextDoc = σ.nextDoc + 1 := by
  have k1 : ¬ a_target = a_event := by decide
  have k2 : ¬ a_target = a_cond := by decide
  have k3 : ¬ a_target = a_type := by decide
  obtain ⟨⟨tgs, F⟩, hF⟩ :
      ∃ r, parseStateSpec { σ.fsm with regions := rset σ.fsm.regions (σ.nextId + 1) [] } (splitAsciiWs tg) [] = r :=
    ⟨_, rfl⟩
  have hv : view F = (splitAsciiWs tg).foldl vref (view σ.fsm) :=
    (congrArg (fun r : List Nat × Fsm => view r.2) hF).symm.trans (view_parseStateSpec _ _ _)
  -- the current state still exists after the references
  obtain ⟨pv, hpv⟩ := vget_of_le (vs := view F) h.p0
    (by rw [hv]; exact Nat.le_trans h.valid (vtrans_ext h.ok (some tg)).len)
  obtain ⟨ps, hps⟩ := getState_some_of_vget hpv
  obtain ⟨t', ht'⟩ := tget_append_self F.transitions
    { id := σ.nextId, docId := σ.nextDoc, events := [], wildcard := false, cond := .null, source := ps.id,
      target := tgs, ttype := .external }
  have hvm := view_modState_id F p (fun s => { s with transitions := s.transitions ++ [σ.nextId] }) (by intro s; rfl)
  rw [step_empty h.raw _ (t := .transition) (by decide) (by decide) (by decide)]
  simp [h.raw, startElement, startTransition, verifyParent, RS.parentTag, RS.push, htag,
    getAttr, k1, k2, k3, bind, Except.bind, startRegion, hF, curState, h.cur, h.p0, hps, modCurState, endElement,
    endTransition, endRegion, unwind, h.nid, ht', RS.pop]
  exact hvm.trans hv

/-- `</state>`: `set_default_initial` may add an initial transition; nesting and doc ids are not touched -/
theorem step_stopState (σ : RS) (i : Nat) (c : Item) (st : List Item) (hraw : σ.raw = none)
    (htag : σ.cur.tag = .state) (hcur : σ.cur.state = i) (hi0 : i ≠ 0) (hvalid : i ≤ (view σ.fsm).length)
    (hstack : σ.stack = c :: st) (hnid : σ.nextId ≠ 0) :
    ∃ σ', step σ (.stop t_state) = .ok σ' ∧ σ'.raw = none ∧ σ'.cur = c ∧ σ'.stack = st ∧ σ'.nextId ≠ 0 ∧
      view σ'.fsm = view σ.fsm ∧ σ'.nextDoc = σ.nextDoc := by
  obtain ⟨v, hv⟩ := vget_of_le (vs := view σ.fsm) hi0 hvalid
  obtain ⟨s, hs⟩ := getState_some_of_vget hv
  rw [step_stop hraw (t := .state) (by decide) (by decide)]
  by_cases hinit : s.initial = 0
  · cases hk : s.states with
    | nil =>
      simp [hraw, endElement, htag, setDefaultInitial, hcur, hs, hinit, hk, bind, Except.bind, RS.pop,
        hstack, hnid]
    | cons first rest =>
      have hvm := view_modState_id σ.fsm i (fun s => { s with initial := σ.nextId }) (by intro s; rfl)
      simp [hraw, endElement, htag, setDefaultInitial, hcur, hs, hinit, hk, bind, Except.bind, RS.pop,
        hstack]
      exact hvm
  · simp [hraw, endElement, htag, setDefaultInitial, hcur, hs, hinit, bind, Except.bind, RS.pop,
      hstack, hnid]

/-! ### trees of states: the reader run is `amT` on the view -/

mutual
/-- SAX events of a tree of states -/
def saxST : ST → List Sax
  | .node n tg ks =>
    [.start t_state [(a_id, n)]] ++
    (match tg with
     | some t => [.empty t_transition [(a_target, t)]]
     | none => []) ++ saxSF ks ++ [.stop t_state]
def saxSF : List ST → List Sax
  | [] => []
  | t :: r => saxST t ++ saxSF r
end

def Sim (evs : List Sax) (σ : RS) (vs' : List V) (d' : Nat) : Prop :=
  ∃ σ', run evs σ = .ok σ' ∧ σ'.raw = none ∧ σ'.cur = σ.cur ∧ σ'.stack = σ.stack ∧ σ'.nextId ≠ 0 ∧
    view σ'.fsm = vs' ∧ σ'.nextDoc = d'

mutual
theorem simTree : (t : ST) → (σ : RS) → (p : Nat) → SR σ p →
    Sim (saxST t) σ (amT t p (view σ.fsm) σ.nextDoc) (σ.nextDoc + sizeT t)
  | .node n tg ks, σ, p, h => by
    obtain ⟨σ1, hs1, hraw1, hcur1, hstack1, hnid1, hview1, hdoc1⟩ := step_startState σ p n h
    obtain ⟨he1, hi0, v, hf, hv, _, _, _⟩ := vdecl_spec h.ok n p σ.nextDoc h.p0
    have hSR1 : SR σ1 (vdecl (view σ.fsm) n p σ.nextDoc).1 :=
      ⟨hraw1, Or.inr (by rw [hcur1]), by rw [hcur1], hi0, by rw [hview1]; exact he1.ok,
        by rw [hview1]; exact (le_of_vget hv).2, by rw [hnid1]; exact h.nid⟩
    -- the transition
    have htr : ∃ σ2, run (match tg with
          | some t => [Sax.empty t_transition [(a_target, t)]]
          | none => []) σ1 = .ok σ2 ∧
        σ2.raw = none ∧ σ2.cur = σ1.cur ∧ σ2.stack = σ1.stack ∧ σ2.nextId ≠ 0 ∧
        view σ2.fsm = vtrans tg (vdecl (view σ.fsm) n p σ.nextDoc).2 ∧
        σ2.nextDoc = σ.nextDoc + (if tg.isSome then 2 else 1) := by
      cases tg with
      | none =>
        exact ⟨σ1, by simp [run], hraw1, rfl, rfl, by rw [hnid1]; exact h.nid, hview1, by simpa using hdoc1⟩
      | some t =>
        obtain ⟨σ2, hs2, hraw2, hcur2, hstack2, hnid2, hview2, hdoc2⟩ :=
          step_transition σ1 _ t hSR1 (by rw [hcur1])
        exact ⟨σ2, by rw [run_cons_ok hs2]; simp [run], hraw2, hcur2, hstack2, hnid2, by rw [hview2, hview1]; rfl,
          by simp [hdoc2, hdoc1]⟩
    obtain ⟨σ2, hs2, hraw2, hcur2, hstack2, hnid2, hview2, hdoc2⟩ := htr
    have hext2 := vtrans_ext he1.ok tg
    rw [← hview2] at hext2
    have hSR2 : SR σ2 (vdecl (view σ.fsm) n p σ.nextDoc).1 :=
      ⟨hraw2, Or.inr (by rw [hcur2, hcur1]), by rw [hcur2, hcur1], hi0, hext2.ok,
        Nat.le_trans (le_of_vget hv).2 hext2.len, hnid2⟩
    obtain ⟨σ3, hs3, hraw3, hcur3, hstack3, hnid3, hview3, hdoc3⟩ := simF ks σ2 _ hSR2
    obtain ⟨he3, _⟩ := amF_spec ks (vdecl (view σ.fsm) n p σ.nextDoc).1 (view σ2.fsm) σ2.nextDoc hext2.ok hi0
    obtain ⟨σ4, hs4, hraw4, hcur4, hstack4, hnid4, hview4, hdoc4⟩ :=
      step_stopState σ3 (vdecl (view σ.fsm) n p σ.nextDoc).1 σ.cur σ.stack hraw3 (by rw [hcur3, hcur2, hcur1])
        (by rw [hcur3, hcur2, hcur1]) hi0
        (by rw [hview3]; exact Nat.le_trans hSR2.valid he3.len)
        (by rw [hstack3, hstack2, hstack1]) hnid3
    refine ⟨σ4, ?_, hraw4, hcur4, hstack4, hnid4, ?_, ?_⟩
    · simp only [saxST]
      rw [List.append_assoc, List.append_assoc, List.singleton_append, run_cons_ok hs1, run_append_ok hs2,
        run_append_ok hs3, run_cons_ok hs4]
      rfl
    · rw [hview4, hview3, hview2, hdoc2, amT_node]
    · rw [hdoc4, hdoc3, hdoc2]; simp only [sizeT]; omega
theorem simF : (ts : List ST) → (σ : RS) → (p : Nat) → SR σ p →
    Sim (saxSF ts) σ (amF ts p (view σ.fsm) σ.nextDoc) (σ.nextDoc + sizeF ts)
  | [], σ, p, h => ⟨σ, by simp [saxSF, run], h.raw, rfl, rfl, h.nid, by simp [amF], by simp [sizeF]⟩
  | t :: r, σ, p, h => by
    obtain ⟨σ1, hs1, hraw1, hcur1, hstack1, hnid1, hview1, hdoc1⟩ := simTree t σ p h
    obtain ⟨he1, _⟩ := amT_spec t p (view σ.fsm) σ.nextDoc h.ok h.p0
    have hSR1 : SR σ1 p :=
      ⟨hraw1, by rw [hcur1]; exact h.tag, by rw [hcur1]; exact h.cur, h.p0, by rw [hview1]; exact he1.ok,
        by rw [hview1]; exact Nat.le_trans h.valid he1.len, hnid1⟩
    obtain ⟨σ2, hs2, hraw2, hcur2, hstack2, hnid2, hview2, hdoc2⟩ := simF r σ1 p hSR1
    refine ⟨σ2, ?_, hraw2, by rw [hcur2, hcur1], by rw [hstack2, hstack1], hnid2, ?_, ?_⟩
    · simp only [saxSF]; exact (run_append_ok hs1 _).trans hs2
    · rw [hview2, hview1, hdoc1]; simp only [amF]
    · rw [hdoc2, hdoc1]; simp only [sizeF]; omega
end

theorem simT : (t : ST) → (σ : RS) → (p : Nat) → SR σ p → (namesT t).Nodup →
    Sim (saxST t) σ (amT t p (view σ.fsm) σ.nextDoc) (σ.nextDoc + sizeT t) :=
  fun t σ p h _ => simTree t σ p h

/-- the reader state after `<scxml>` -/
def σscxml : RS := okState (run [.start t_scxml []] {})

theorem σscxml_run : run [.start t_scxml []] {} = .ok σscxml := eq_ok_okState (by decide +kernel)

/-- `[95, 95, 105, 100, 49]` is `__id1` (`genName 1`), the name of an `<scxml>` without `name` -/
theorem σscxml_facts : σscxml.raw = none ∧ σscxml.cur.tag = .scxml ∧ σscxml.cur.state = 1 ∧
    σscxml.nextId = 1 ∧ σscxml.nextDoc = 2 ∧ view σscxml.fsm = [⟨1, [95, 95, 105, 100, 49], 0, 1, []⟩] := by
  decide +kernel

theorem σscxml_SR : SR σscxml 1 := by
  obtain ⟨hraw, htag, hcur, hnid, _, hview⟩ := σscxml_facts
  have hok : IdsOk (view σscxml.fsm) := hview ▸ idsOk_single _ 0 1 []
  exact ⟨hraw, Or.inl htag, hcur, by decide, hok, by rw [hview]; decide, by rw [hnid]; decide⟩

end Rfsm.Reader
