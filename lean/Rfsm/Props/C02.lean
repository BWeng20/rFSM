import Rfsm.Audit
import Rfsm.Proofs.SessLemmas
import Rfsm.Proofs.OptimalLemmas
/-!
# C02 — Each microstep takes exactly the W3C optimal transition set, deterministically

Model: `Rfsm.Interp` (M-INT), a transcription of `selectEventlessTransitions`, `selectTransitions`,
`removeConflictingTransitions`, `computeExitSet`, `exitStates`, `enterStates`, `microstep` of
`src/fsm.rs`, generic in the data model (`Env σ`).  Everything below holds for every document
table `d`, every session state `s` (configuration, history, data) and every event; for every data model,
except that the theorems about which guard holds assume `GuardsPure env` (a guard leaves the data as it is).

The clauses of the statement and where they are proved:

* per active atomic state, state before ancestors, document order, matching the event
  (or eventless), first one whose guard holds                     — `C02_candidates`, `C02_candidate_order`,
                                                                     `C02_first_enabled`, `C02_selected`
* atomic states are visited in document order                      — `C02_atomic_states`
* conflicting selections: pre-empted in favour of the earlier one unless the later one's source is
  a descendant                                                     — `C02_conflict_free`, `C02_preempted`,
                                                                     `C02_descendant_wins`
* states exited in reverse document order, entered in document order — `C02_exit_order`, `C02_entry_order`
* the exit set is the active part below the transition domains      — `C02_exit_set`
* the trace is a function of document and event history             — `C02_deterministic`
-/
namespace Rfsm.Interp
open Rfsm.Descriptor (Str nameMatch)

variable {σ : Type}

/-- matching clause for one transition and an optional event name -/
def matchesEvent (d : Doc) (ev : Option Str) (t : Nat) : Prop :=
  match ev with
  | none => (getTrans d t).events = []
  | some n => (getTrans d t).events ≠ [] ∧ nameMatch (getTrans d t).wildcard (getTrans d t).events n = true

/-- The declarative optimal enabled set (W3C 3.13): `ts` is optimal for `ev` in session `s` when
 (1) each member is, for some active atomic state `a`, the first transition in `a`'s candidate
     chain (own transitions in document order, then the ancestors') that matches and whose guard
     holds;
 (2) members are pairwise conflict free;
 (3) a first-enabled transition of an atomic state is absent only if it conflicts with a member
     (which member wins a conflict, the pre-emption rule, is not part of this definition). -/
def OptimalSet (env : Env σ) (d : Doc) (ev : Option Str) (s : Sess σ) (ts : List Nat) : Prop :=
  (∀ t ∈ ts, ∃ a ∈ atomicStates d s.cfg,
      (candidates d ev a).find? (guardHolds env d s.dm s.cfg) = some t) ∧
  ConflictFree d s.hv s.cfg ts ∧
  (∀ a ∈ atomicStates d s.cfg, ∀ t, (candidates d ev a).find? (guardHolds env d s.dm s.cfg) = some t →
      t ∈ ts ∨ ∃ t' ∈ ts, conflict d s.hv s.cfg t t' = true)

/-- C02 at full strength: for pure guards the selected set is the optimal set.  Neither proved nor
    refuted; it quantifies over all tables, tree-like or not (see `C02_partial`). -/
def C02_full : Prop :=
  ∀ (σ : Type) (env : Env σ) (d : Doc) (ev : Option Str) (s : Sess σ), GuardsPure env →
    OptimalSet env d ev s (select env d ev s).2

/-- every candidate of an atomic state belongs to that state or one of its proper ancestors and
    matches the event (is eventless when there is no event) -/
theorem C02_candidates (d : Doc) (ev : Option Str) (a t : Nat) (h : t ∈ candidates d ev a) :
    (∃ x ∈ a :: getProperAncestors d a 0, t ∈ (getState d x).transitions) ∧ matchesEvent d ev t := by
  unfold candidates at h
  rw [List.mem_filter, List.mem_flatMap] at h
  obtain ⟨⟨x, hx, ht⟩, hp⟩ := h
  refine ⟨⟨x, hx, by simpa [transOf, mem_sortBy] using ht⟩, ?_⟩
  unfold matchesEvent
  cases ev with
  | none => simpa using hp
  | some n => simpa using hp
#assert_axioms C02_candidates

/-- the candidate chain is a sublist (some filter) of: the state's own transitions in document order,
    then each proper ancestor's in ancestry order; that the filter is the event is `C02_candidates` -/
theorem C02_candidate_order (d : Doc) (ev : Option Str) (a : Nat) :
    (∃ p, candidates d ev a = ((a :: getProperAncestors d a 0).flatMap (transOf d)).filter p) ∧
    ∀ x, (transOf d x).Pairwise (fun t u => (getTrans d t).docId ≤ (getTrans d u).docId) ∧
         ∀ t, t ∈ transOf d x ↔ t ∈ (getState d x).transitions :=
  ⟨⟨_, rfl⟩, fun _ => ⟨sortBy_sorted _ _, fun _ => mem_sortBy⟩⟩
#assert_axioms C02_candidate_order

/-- atomic states are visited in document order and are exactly the atomic members of the
    configuration -/
theorem C02_atomic_states (d : Doc) (cfg : List Nat) :
    (atomicStates d cfg).Pairwise (fun a b => docIdOf d a ≤ docIdOf d b) ∧
    ∀ a, a ∈ atomicStates d cfg ↔ a ∈ cfg ∧ isAtomicStateId d a = true :=
  ⟨sortBy_sorted _ _, fun _ => by simp [atomicStates, mem_sortBy]⟩
#assert_axioms C02_atomic_states

/-- for guards without side effects on the data, the transition chosen for an atomic state is the
    first candidate whose guard holds (in the data state and configuration at selection time) -/
theorem C02_first_enabled (env : Env σ) (hp : GuardsPure env) (d : Doc) (s : Sess σ) (l : List Nat) :
    (firstEnabled env d s l).2 = l.find? (guardHolds env d s.dm s.cfg) :=
  (firstEnabled_eq_find env hp d l s).1
#assert_axioms C02_first_enabled

/-- every selected transition is a candidate of an active atomic state (any data model) -/
theorem C02_selected (env : Env σ) (d : Doc) (ev : Option Str) (s : Sess σ) :
    ∀ t ∈ (select env d ev s).2, ∃ a ∈ atomicStates d s.cfg, t ∈ candidates d ev a := by
  intro t ht
  rw [select_eq_removeConflicting] at ht
  exact (selectLoop_mem env d ev _ s [] t (removeConflicting_subset d s.hv s.cfg _ t ht)).resolve_left
    List.not_mem_nil
#assert_axioms C02_selected

/-- the selected transitions are duplicate free and have pairwise disjoint exit sets -/
theorem C02_conflict_free (env : Env σ) (d : Doc) (ev : Option Str) (s : Sess σ) :
    ConflictFree d s.hv s.cfg (select env d ev s).2 := by
  rw [select_eq_removeConflicting]
  exact removeConflicting_conflictFree d s.hv s.cfg _
#assert_axioms C02_conflict_free

/-- pre-emption in favour of the earlier selection -/
theorem C02_preempted (d : Doc) (hv : Table) (cfg filtered : List Nat) (t1 : Nat)
    (h : ∃ t2 ∈ filtered, conflict d hv cfg t1 t2 = true ∧
      isDescendant d (getTrans d t1).source (getTrans d t2).source = false) :
    rcStep d hv cfg filtered t1 = filtered := by
  unfold rcStep
  rw [scan_eq, if_pos (any_preempts.2 h)]
#assert_axioms C02_preempted

/-- … unless the later transition's source is a descendant: then it replaces what it conflicts with -/
theorem C02_descendant_wins (d : Doc) (hv : Table) (cfg filtered : List Nat) (t1 : Nat)
    (h : ∀ t2 ∈ filtered, conflict d hv cfg t1 t2 = true →
      isDescendant d (getTrans d t1).source (getTrans d t2).source = true) :
    t1 ∈ rcStep d hv cfg filtered t1 ∧
    (∀ t2 ∈ filtered, t2 ≠ t1 → conflict d hv cfg t1 t2 = true → t2 ∉ rcStep d hv cfg filtered t1) ∧
    (∀ t2 ∈ filtered, conflict d hv cfg t1 t2 = false → t2 ∈ rcStep d hv cfg filtered t1) := by
  have hno : ¬ filtered.any (preempts d hv cfg t1) = true := by
    rw [any_preempts]
    rintro ⟨t2, h2, hc, hd⟩
    rw [h t2 h2 hc] at hd
    cases hd
  simp only [mem_rcStep, if_neg hno]
  refine ⟨Or.inr trivial, fun t2 _ hne hc => ?_, fun t2 h2 hc => Or.inl ⟨h2, hc⟩⟩
  rintro (⟨_, hc'⟩ | e)
  · rw [hc] at hc'; cases hc'
  · exact hne e
#assert_axioms C02_descendant_wins

/-- `removeConflictingTransitions` is the left fold of that step over the enabled list -/
theorem C02_filter_is_fold (d : Doc) (hv : Table) (cfg enabled : List Nat) :
    removeConflicting d hv cfg enabled = enabled.foldl (rcStep d hv cfg) [] := rfl
#assert_axioms C02_filter_is_fold

/-- the exit set: the active states that are descendants of the domain of a taken transition with
    targets — nothing else, no duplicates -/
theorem C02_exit_set (d : Doc) (hv : Table) (cfg ts : List Nat) :
    (∀ x, x ∈ computeExitSet d hv cfg ts ↔ x ∈ cfg ∧ ∃ tid ∈ ts, exits d hv tid x) ∧
    (computeExitSet d hv cfg ts).Nodup :=
  ⟨fun _ => mem_computeExitSet, computeExitSet_nodup d hv cfg ts⟩
#assert_axioms C02_exit_set

/-- states are exited in reverse document order: `exitStates` folds its per-state action (trace,
    cancel invocations, onexit blocks, remove from the configuration) over this list -/
theorem C02_exit_order (d : Doc) (s : Sess σ) (ts : List Nat) :
    let order := sortByDesc (docIdOf d) (computeExitSet d s.hv s.cfg ts)
    order.Pairwise (fun a b => docIdOf d b ≤ docIdOf d a) ∧ order.Perm (computeExitSet d s.hv s.cfg ts) :=
  ⟨sortByDesc_sorted _ _, sortByDesc_perm _ _⟩
#assert_axioms C02_exit_order

/-- states are entered in document order: `enterStates` folds `enterOne` over this list -/
theorem C02_entry_order (env : Env σ) (d : Doc) (s : Sess σ) (ts : List Nat) :
    let acc := computeEntrySet d s.hv ts
    let order := sortBy (docIdOf d) acc.toEnter
    order.Pairwise (fun a b => docIdOf d a ≤ docIdOf d b) ∧ order.Perm acc.toEnter ∧
    enterStates env d s ts = order.foldl (enterOne env d acc) s :=
  ⟨sortBy_sorted _ _, sortBy_perm _ _, rfl⟩
#assert_axioms C02_entry_order

/-- exit, transition bodies in selection order, enter -/
theorem C02_microstep (env : Env σ) (d : Doc) (s : Sess σ) (ts : List Nat) :
    microstep env d s ts = enterStates env d (executeTransitionContent env d (exitStates env d s ts) ts) ts ∧
    executeTransitionContent env d s ts =
      ts.foldl (fun s tid => if (getTrans d tid).content > 0 then runContent env s (getTrans d tid).content else s) s :=
  ⟨rfl, rfl⟩
#assert_axioms C02_microstep

/-- determinism: the whole run (trace included) is a function of the document tables, the data
    model, the caller information and the batches of external events.  (Definitional for the
    model; for the implementation it is checked by repeating every run of the correspondence.) -/
theorem C02_deterministic (env : Env σ) (d : Doc) (c : Option Str) (hp : Bool) (dm : σ)
    (feed₁ feed₂ : List (List Event)) (m l : Nat) (h : feed₁ = feed₂) :
    interpret env d c hp dm feed₁ m l = interpret env d c hp dm feed₂ m l := by
  rw [h]
#assert_axioms C02_deterministic

/-- with pure guards the enabled list (what selection collects before conflict removal) consists
    exactly of the first-enabled candidates of the active atomic states, without duplicates -/
theorem C02_enabled_exact (env : Env σ) (hp : GuardsPure env) (d : Doc) (ev : Option Str) (s : Sess σ) :
    (enabledList env d ev s).Nodup ∧
    ∀ t, t ∈ enabledList env d ev s ↔
      ∃ a ∈ atomicStates d s.cfg, (candidates d ev a).find? (guardHolds env d s.dm s.cfg) = some t := by
  unfold enabledList
  rw [selectLoop_pure env hp d ev]
  refine ⟨pickFold_nodup env d ev s.dm s.cfg _ [] List.nodup_nil, fun t => ?_⟩
  rw [mem_pickFold]
  simp
#assert_axioms C02_enabled_exact

/-- clause (1) of `OptimalSet`: every member of the selected set is, for some active atomic state,
    THE first candidate of that state's chain whose guard holds -/
theorem C02_members_first_enabled (env : Env σ) (hp : GuardsPure env) (d : Doc) (ev : Option Str)
    (s : Sess σ) :
    ∀ t ∈ (select env d ev s).2, ∃ a ∈ atomicStates d s.cfg,
      (candidates d ev a).find? (guardHolds env d s.dm s.cfg) = some t := by
  intro t ht
  rw [select_eq_removeConflicting] at ht
  exact ((C02_enabled_exact env hp d ev s).2 t).1 (removeConflicting_subset d s.hv s.cfg _ t ht)
#assert_axioms C02_members_first_enabled

/-- towards clause (3) of `OptimalSet`: a first-enabled transition of an active atomic state is
    absent from the selected set only if it conflicts with a DIFFERENT first-enabled transition (of
    some active atomic state).  Clause (3) itself demands that this other transition is a member of
    the result; see `C02_partial`. -/
theorem C02_absent_only_by_conflict (env : Env σ) (hp : GuardsPure env) (d : Doc) (ev : Option Str)
    (s : Sess σ) (a : Nat) (ha : a ∈ atomicStates d s.cfg) (t : Nat)
    (ht : (candidates d ev a).find? (guardHolds env d s.dm s.cfg) = some t) :
    t ∈ (select env d ev s).2 ∨
    ∃ a' ∈ atomicStates d s.cfg, ∃ t', (candidates d ev a').find? (guardHolds env d s.dm s.cfg) = some t' ∧
      t' ≠ t ∧ conflict d s.hv s.cfg t t' = true := by
  obtain ⟨hnd, hmem⟩ := C02_enabled_exact env hp d ev s
  rw [select_eq_removeConflicting]
  rcases removeConflicting_absent d s.hv s.cfg _ hnd t ((hmem t).2 ⟨a, ha, ht⟩) with h | ⟨t', ht', hne, hc⟩
  · exact Or.inl h
  · obtain ⟨a', ha', hf⟩ := (hmem t').1 ht'
    exact Or.inr ⟨a', ha', t', hf, hne, hc⟩
#assert_axioms C02_absent_only_by_conflict

/-- a transition whose exit set is disjoint from that of every other enabled transition is always
    taken (corollary: in a configuration without conflicts the selected set IS the enabled set) -/
theorem C02_unconflicted_taken (env : Env σ) (hp : GuardsPure env) (d : Doc) (ev : Option Str)
    (s : Sess σ) (t : Nat) (ht : t ∈ enabledList env d ev s)
    (hfree : ∀ t' ∈ enabledList env d ev s, t' ≠ t → conflict d s.hv s.cfg t t' = false) :
    t ∈ (select env d ev s).2 := by
  obtain ⟨hnd, _⟩ := C02_enabled_exact env hp d ev s
  rw [select_eq_removeConflicting]
  rcases removeConflicting_absent d s.hv s.cfg _ hnd t ht with h | ⟨t', ht', hne, hc⟩
  · exact h
  · rw [hfree t' ht' hne] at hc; cases hc
#assert_axioms C02_unconflicted_taken

/-- What is proved of `C02_full` (for pure guards, every document table, session, event, data
    model): clauses (1) and (2) of `OptimalSet` in full — every selected transition is THE first
    candidate whose guard holds of some active atomic state, and the set is duplicate and conflict
    free — and of clause (3) the weaker form `C02_absent_only_by_conflict`: a first-enabled transition
    that is absent conflicts with a different first-enabled transition.
    **Missing** for `C02_full`: clause (3) demands that this other transition is itself a *member* of
    the result.  `conflict` is not transitive, so the fold over `rcStep` alone does not give that: a
    transition pre-empted by `t'` stays dropped when `t'` is later removed by a third one.  On state
    *trees* this cannot happen (the atomic states between two descendants of a state in document
    order are descendants of it too), which needs pre-order lemmas about `docId` that `conformantB`
    does not provide; `C02_full` quantifies over all tables, for which it is not expected to hold (no
    counterexample is proved either). -/
theorem C02_partial (env : Env σ) (hp : GuardsPure env) (d : Doc) (ev : Option Str) (s : Sess σ) :
    (∀ t ∈ (select env d ev s).2, ∃ a ∈ atomicStates d s.cfg,
        (candidates d ev a).find? (guardHolds env d s.dm s.cfg) = some t) ∧
    ConflictFree d s.hv s.cfg (select env d ev s).2 ∧
    (∀ a ∈ atomicStates d s.cfg, ∀ t, (candidates d ev a).find? (guardHolds env d s.dm s.cfg) = some t →
        t ∈ (select env d ev s).2 ∨
        ∃ a' ∈ atomicStates d s.cfg, ∃ t', (candidates d ev a').find? (guardHolds env d s.dm s.cfg) = some t' ∧
          t' ≠ t ∧ conflict d s.hv s.cfg t t' = true) :=
  ⟨C02_members_first_enabled env hp d ev s, C02_conflict_free env d ev s,
   fun a ha t ht => C02_absent_only_by_conflict env hp d ev s a ha t ht⟩
#assert_axioms C02_partial

/-! ### Non-vacuity: a concrete parallel document where two regions select conflicting transitions -/

/-- root 1 ⊃ parallel 2 ⊃ regions 3 ⊃ {4}, 5 ⊃ {6}; 7 outside.  t10: 4 → 7 (leaves the parallel),
    t11: 6 → 6. Both on event "e" = [101]. -/
def exDoc : Doc :=
  { root := 1,
    states := [
      { id := 1, docId := 1, kids := [2, 7], initial := 20 },
      { id := 2, docId := 2, parent := 1, kids := [3, 5], isParallel := true },
      { id := 3, docId := 3, parent := 2, kids := [4], initial := 21 },
      { id := 4, docId := 4, parent := 3, transitions := [10] },
      { id := 5, docId := 5, parent := 2, kids := [6], initial := 22 },
      { id := 6, docId := 6, parent := 5, transitions := [11] },
      { id := 7, docId := 7, parent := 1 }],
    transitions := [
      { id := 10, docId := 10, events := [[101]], source := 4, target := [7] },
      { id := 11, docId := 11, events := [[101]], source := 6, target := [6] },
      { id := 20, source := 1, target := [2] }, { id := 21, source := 3, target := [4] },
      { id := 22, source := 5, target := [6] }] }

example : candidates exDoc (some [101]) 4 = [10] ∧ candidates exDoc (some [101]) 6 = [11] := by decide
example : conflict exDoc [] [1, 2, 3, 4, 5, 6] 10 11 = true := by decide
-- the earlier atomic state's transition pre-empts the later one
example : removeConflicting exDoc [] [1, 2, 3, 4, 5, 6] [10, 11] = [10] := by decide
example : sortByDesc (docIdOf exDoc) (computeExitSet exDoc [] [1, 2, 3, 4, 5, 6] [10]) = [6, 5, 4, 3, 2] := by decide

/-- a data model without data: every guard holds, nothing has effects (pure guards) -/
def trivEnv : Env Unit :=
  { cond := fun dm _ _ => ({ dm := dm }, some true), exec := fun dm _ _ => { dm := dm },
    setEvent := fun dm _ => dm, initData := fun dm _ _ => { dm := dm },
    doneData := fun dm _ _ => ({ dm := dm }, []), invoke := fun dm _ _ _ => { dm := dm } }

example : GuardsPure trivEnv := fun _ _ _ => rfl
-- the hypotheses of C02_enabled_exact / C02_absent_only_by_conflict on a concrete session: both
-- regions enable a transition, the later one is absent and conflicts with the earlier, different one
example : enabledList trivEnv exDoc (some [101]) { cfg := [1, 2, 3, 4, 5, 6], dm := () } = [10, 11] := by decide
example : (select trivEnv exDoc (some [101]) { cfg := [1, 2, 3, 4, 5, 6], dm := () }).2 = [10] := by decide
example : (candidates exDoc (some [101]) 6).find? (guardHolds trivEnv exDoc () [1, 2, 3, 4, 5, 6]) =
    some 11 := by decide

end Rfsm.Interp
