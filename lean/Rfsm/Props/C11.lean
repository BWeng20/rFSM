import Rfsm.Audit
import Rfsm.Proofs.ExprOps
import Rfsm.Proofs.ExprLexerLemmas
import Rfsm.Proofs.ExprEvalLemmas
/-!
# C11 — Expression parsing and evaluation always terminate with a value or an error

Model: `Rfsm.Expr`.  Every Rust panic, every `lock()` of a `Mutex` the evaluating thread already
holds (`deadlock site`) and a never-ending token stream (`livelock`) is an explicit outcome of the
model.  Termination of lexer, parser and evaluator *as functions* is what Lean's acceptance of the
definitions establishes (structural recursion; the parser's fuel is shown sufficient in
`C11_parser_fuel_sufficient`).

State after the repairs of P3 (`%`, `abs`), P4 (`a = a`, `a ?= a`, `a[a]`, `a == [a]`) and of the
lexer livelock (`1 <`): parsing is total (`C11_parse_total`), nothing panics
(`C11_execute_no_panic`), an evaluation can block only inside `DataArc::eq`
(`C11_deadlock_only_in_equality`; `C11_no_self_deadlock` for `l = r`, `l ?= r`, `l[i]`), and the former
witnesses except `abs` are regression theorems (`C11_regression_*`).  What is left (`C11_partial`,
`C11_counterexample`): `DataArc::eq` still locks both sides while it descends, so `==` / `!=` on two
*cyclic* values (a value that contains its own cell, which `a[0] = a` can build) blocks on a lock it holds
itself.
-/
namespace Rfsm.Expr

/-- **C11 at full strength**: for every source text and every store, `execute` ends with a value
or an error and holds no data lock afterwards. -/
def C11_full : Prop :=
  ∀ (D : Type) (ops : DoubleOps D) (text : Str) (st : St D), st.held = [] →
    (execute ops text st).2.isValueOrError = true ∧ (execute ops text st).1.held = []

/-! ## The former counterexamples, on the model of the repaired code (regression) -/

/-- store with one variable `a = 7` -/
def storeA (D : Type) : St D := ⟨[.int 7], [([97], ⟨0, false⟩)], []⟩
/-- store with `a = [7]` (cell 1 holds the array, cell 0 its element) -/
def storeArr (D : Type) : St D := ⟨[.int 7, .array [⟨0, false⟩]], [([97], ⟨1, false⟩)], []⟩

/-- P3: `5 % 0` is an error value, no panic -/
theorem C11_regression_rem_by_zero {D : Type} (ops : DoubleOps D) :
    (execute ops [53, 32, 37, 32, 48] ⟨[], [], []⟩).2 = .ok ⟨2, false⟩ ∧
    (execute ops [53, 32, 37, 32, 48] ⟨[], [], []⟩).1.get 2 = .error .remUndefined := ⟨rfl, rfl⟩
#assert_axioms C11_regression_rem_by_zero

/-- P3: `a % 0` leaves no cell locked -/
theorem C11_regression_rem_releases {D : Type} (ops : DoubleOps D) :
    (execute ops [97, 32, 37, 32, 48] (storeA D)).2 = .ok ⟨2, false⟩ ∧
    (execute ops [97, 32, 37, 32, 48] (storeA D)).1.held = [] := ⟨rfl, rfl⟩
#assert_axioms C11_regression_rem_releases

/-- P4: `a = a` assigns -/
theorem C11_regression_assign_self {D : Type} (ops : DoubleOps D) :
    (execute ops [97, 32, 61, 32, 97] (storeA D)).2 = .ok ⟨0, false⟩ ∧
    (execute ops [97, 32, 61, 32, 97] (storeA D)).1.held = [] := ⟨rfl, rfl⟩
#assert_axioms C11_regression_assign_self

/-- P4: `a ?= a` -/
theorem C11_regression_assign_undef_self {D : Type} (ops : DoubleOps D) :
    (execute ops [97, 32, 63, 61, 32, 97] (storeA D)).2 = .ok ⟨0, false⟩ ∧
    (execute ops [97, 32, 63, 61, 32, 97] (storeA D)).1.held = [] := ⟨rfl, rfl⟩
#assert_axioms C11_regression_assign_undef_self

/-- P4: `a[a]` on an array is an "Illegal index type" error -/
theorem C11_regression_index_self {D : Type} (ops : DoubleOps D) :
    (execute ops [97, 91, 97, 93] (storeArr D)).2 = .err .illegalIndexType ∧
    (execute ops [97, 91, 97, 93] (storeArr D)).1.held = [] := ⟨rfl, rfl⟩
#assert_axioms C11_regression_index_self

/-- P4: `a == [a]` with `a = [7]` is `false` -/
theorem C11_regression_equal_self {D : Type} (ops : DoubleOps D) :
    (execute ops [97, 32, 61, 61, 32, 91, 97, 93] (storeArr D)).2 = .ok ⟨3, false⟩ ∧
    (execute ops [97, 32, 61, 61, 32, 91, 97, 93] (storeArr D)).1.get 3 = .bool false ∧
    (execute ops [97, 32, 61, 61, 32, 91, 97, 93] (storeArr D)).1.held = [] := ⟨rfl, rfl, rfl⟩
#assert_axioms C11_regression_equal_self

/-- an operator character as the very last character: the lexer reaches the end, `1 <` is a parse
error -/
theorem C11_regression_livelock :
    nextToken [0] [60] = (.operator .less, []) ∧ (∃ e, parse [49, 32, 60] = .err e) :=
  ⟨rfl, ⟨_, rfl⟩⟩
#assert_axioms C11_regression_livelock

/-! ## What is still false: `==` on two cyclic values -/

/-- two cells that each hold a one-element array containing the cell itself (`a[0] = a` builds
such a value from `a = [7]`), `a` and `b` name them -/
def storeCyc (D : Type) : St D :=
  ⟨[.array [⟨0, false⟩], .array [⟨1, false⟩]], [([97], ⟨0, false⟩), ([98], ⟨1, false⟩)], []⟩

/-- `a == b` on two cyclic values: `DataArc::eq` locks both cells, descends and comes back to them -/
theorem C11_counterexample_equal_cyclic {D : Type} (ops : DoubleOps D) :
    (execute ops [97, 32, 61, 61, 32, 98] (storeCyc D)).2 = .deadlock .equal := rfl
#assert_axioms C11_counterexample_equal_cyclic

theorem C11_counterexample : ¬ C11_full := by
  intro h
  let ops : DoubleOps Unit :=
    { add := fun _ _ => (), sub := fun _ _ => (), mul := fun _ _ => (), div := fun _ _ => (),
      rem := fun _ _ => (), lt := fun _ _ => false, le := fun _ _ => false, eq := fun _ _ => false,
      isNaN := fun _ => false, abs := fun _ => (), ofInt := fun _ => (), toIndex := fun _ => none,
      parse := fun _ => (), toStr := fun _ => [] }
  have := (h Unit ops [97, 32, 61, 61, 32, 98] (storeCyc Unit) rfl).1
  rw [C11_counterexample_equal_cyclic ops] at this
  exact absurd this (by decide)
#assert_axioms C11_counterexample

/-! ## What does hold -/

/-- the lexer always makes progress: the remaining input never grows, and it shrinks unless the
token is `eoe` or a stop separator.  (The disjuncts `.isOperator` / `.isError` are never needed:
`nextToken_progress`.) -/
theorem C11_lexer_progress (stops : List Ch) (inp : Str) :
    (nextToken stops inp).2.length ≤ inp.length ∧
    ((nextToken stops inp).2.length < inp.length ∨ (nextToken stops inp).1.isEoe ∨
      (nextToken stops inp).1.isStopSep stops ∨ (nextToken stops inp).1.isOperator ∨
      (nextToken stops inp).1.isError) := by
  refine ⟨(nextToken_suffix stops inp).length_le, ?_⟩
  rcases nextToken_progress stops inp with h | h | ⟨h1, h2⟩
  · exact .inl h
  · exact .inr (.inl (by rw [h]; rfl))
  · exact .inr (.inr (.inl (by rw [h1]; exact h2)))
#assert_axioms C11_lexer_progress

/-- the parser never reaches `panic!("Internal error")`: for ALL strings -/
theorem C11_parser_no_panic (text : Str) : parse text ≠ .panic := by
  rcases parse_total text with ⟨e, h⟩ | ⟨e, h⟩ <;> simp [h]
#assert_axioms C11_parser_no_panic

/-- the same for the three mutually recursive parser functions, any fuel, any input, any stack
that the parser itself can build (`StackOK`: expressions, identifiers, operators, `.`) -/
theorem C11_parser_functions_no_panic (fuel : Nat) :
    (∀ stops inp exprs stack, StackOK stack → parseSub fuel stops inp exprs stack ≠ .panic) ∧
    (∀ stop inp acc, parseArgs fuel stop inp acc ≠ .panic) ∧
    (∀ stop inp acc, parseMembers fuel stop inp acc ≠ .panic) := by
  obtain ⟨hS, hA, hM⟩ := parser_allowed fuel
  refine ⟨fun stops inp exprs stack hs h => ?_, fun stop inp acc h => ?_, fun stop inp acc h => ?_⟩
  · have := hS stops inp exprs stack; rw [h] at this; exact this hs
  · have := hA stop inp acc; rwa [h] at this
  · have := hM stop inp acc; rwa [h] at this
#assert_axioms C11_parser_functions_no_panic

/-- the fuel of the parser model is sufficient: termination of the model's `parse` is real
termination, not an artefact of the fuel (for ALL strings) -/
theorem C11_parser_fuel_sufficient (text : Str) : parse text ≠ .outOfFuel := by
  rcases parse_total text with ⟨e, h⟩ | ⟨e, h⟩ <;> simp [h]
#assert_axioms C11_parser_fuel_sufficient

/-- the parser never reports a livelock: an operator token always consumes its character -/
theorem C11_parser_no_livelock (text : Str) : parse text ≠ .livelock := by
  rcases parse_total text with ⟨e, h⟩ | ⟨e, h⟩ <;> simp [h]
#assert_axioms C11_parser_no_livelock

/-- **Parsing, all strings, full strength**: every text parses to an expression or a parse error
(no panic, no livelock, no fuel artefact). -/
theorem C11_parse_total (text : Str) :
    (∃ e, parse text = .ok e) ∨ (∃ e, parse text = .err e) := parse_total text
#assert_axioms C11_parse_total

/-- `stack_to_expression` shortens its stack on every round: `stack.length + 1` rounds suffice -/
theorem C11_stackToExpr_fuel_sufficient (stack : List Item) :
    stackToExpr (stackFuel stack) stack ≠ .outOfFuel := by
  rcases stackToExpr_total (Nat.lt_succ_self stack.length) with ⟨e, s, h⟩ | ⟨e, h⟩ | ⟨h, _⟩ <;>
    simp [stackFuel, h]
#assert_axioms C11_stackToExpr_fuel_sufficient

/-- **held-lock set empty after every evaluation that returns**: for every expression, flag and
store, if no data lock is held before and the evaluator returns a value or an error, no data lock
is held afterwards -/
theorem C11_locks_released {D : Type} (ops : DoubleOps D) (e : Expr) (au : Bool) (st : St D)
    (h : st.held = []) (ho : (eval ops e au st).2.isValueOrError = true) :
    (eval ops e au st).1.held = [] := by
  -- `ho` is not needed: `held` comes back as it was on every outcome
  clear ho
  exact (eval_keeps ops e au st).1.trans h
#assert_axioms C11_locks_released

/-- `ExpressionParser::execute` holds no data lock afterwards, whatever the text and the outcome -/
theorem C11_execute_locks_released {D : Type} (ops : DoubleOps D) (text : Str) (st : St D)
    (h : st.held = []) : (execute ops text st).1.held = [] :=
  (execute_keeps ops text st).1.trans h
#assert_axioms C11_execute_locks_released

/-- every `lock()` the evaluator itself performs is taken with nothing else held and succeeds; the
only place an evaluation can block is inside `DataArc::eq` (`==` / `!=`) -/
theorem C11_deadlock_only_in_equality {D : Type} (ops : DoubleOps D) (e : Expr) (au : Bool)
    (st : St D) (h : st.held = []) (s : LockSite) (hd : (eval ops e au st).2 = .deadlock s) :
    s = .equal := (h ▸ (eval_keeps ops e au st).2).site hd
#assert_axioms C11_deadlock_only_in_equality

/-- the evaluator never panics (integer `%` and `abs` were the two sources) -/
theorem C11_evaluator_no_panic {D : Type} (ops : DoubleOps D) (e : Expr) (au : Bool)
    (st : St D) (h : st.held = []) (s : PanicSite) : (eval ops e au st).2 ≠ .panic s := by
  -- `h` is not needed: no outcome is a panic, whatever is held
  clear h
  exact (eval_keeps ops e au st).2.ne_panic s
#assert_axioms C11_evaluator_no_panic

/-- **no panic, all texts, all stores** -/
theorem C11_execute_no_panic {D : Type} (ops : DoubleOps D) (text : Str) (st : St D)
    (h : st.held = []) (s : PanicSite) : (execute ops text st).2 ≠ .panic s := by
  -- `h` is not needed, as above
  clear h
  exact (execute_keeps ops text st).2.ne_panic s
#assert_axioms C11_execute_no_panic

/-- the evaluator itself never loops: `livelock` is an outcome of parsing only.  (The outcome
`fuelOut` of the model's `==` / `Display` recursion through the heap is not excluded by a theorem:
each level locks a fresh cell, so `cells.length + 1` levels suffice — never observed in the
differential runs.) -/
theorem C11_evaluator_no_livelock {D : Type} (ops : DoubleOps D) (e : Expr) (au : Bool)
    (st : St D) (h : st.held = []) : (eval ops e au st).2 ≠ .livelock := by
  -- `h` is not needed, as above
  clear h
  exact (eval_keeps ops e au st).2.ne_livelock
#assert_axioms C11_evaluator_no_livelock

/-- **no self-deadlock in assignments and index expressions**: `l = r`, `l ?= r` and `l[i]` do not
block, whatever cells the two sub-expressions evaluate to — equal cells included.  (Both have to
return, hence the two equations: a `==` on cyclic data inside `l` or `r` could block.) -/
theorem C11_no_self_deadlock {D : Type} (ops : DoubleOps D) (l r : Expr) (au : Bool)
    (st st1 st2 : St D) (a b : Ref) (hst : st.held = []) (s : LockSite) :
    (eval ops r false st = (st1, .ok a) → eval ops l au st1 = (st2, .ok b) →
      (eval ops (.assign l r) au st).2 ≠ .deadlock s) ∧
    (eval ops r au st = (st1, .ok a) → eval ops l true st1 = (st2, .ok b) →
      (eval ops (.assignUndef l r) au st).2 ≠ .deadlock s) ∧
    (eval ops l au st = (st1, .ok a) → eval ops r au st1 = (st2, .ok b) →
      (eval ops (.index l r) au st).2 ≠ .deadlock s) := by
  refine ⟨fun h1 h2 hd => ?_, fun h1 h2 hd => ?_, fun h1 h2 hd => ?_⟩
  all_goals
    -- it could only be a block inside `DataArc::eq`, and behind their two sub-evaluations these nodes
    -- do not compare
    obtain rfl := C11_deadlock_only_in_equality ops _ _ _ hst s hd
    revert hd
    simp only [eval, h1, h2]
    repeat' split
    all_goals nofun
#assert_axioms C11_no_self_deadlock

/-- non-vacuity: `a = b` with two different cells assigns and holds nothing afterwards -/
example {D : Type} (ops : DoubleOps D) :
    (execute ops [97, 32, 61, 32, 98]
      ⟨[.int 7, .int 8], [([97], ⟨0, false⟩), ([98], ⟨1, false⟩)], []⟩).2 = .ok ⟨0, false⟩ ∧
    (execute ops [97, 32, 61, 32, 98]
      ⟨[.int 7, .int 8], [([97], ⟨0, false⟩), ([98], ⟨1, false⟩)], []⟩).1.held = [] := ⟨rfl, rfl⟩

/-- every operator other than `==` / `!=` yields a value or an error value: arithmetic neither
panics nor blocks -/
theorem C11_arithmetic_total {D : Type} (ops : DoubleOps D) (cells : Cells D)
    (held : List Nat) (o : Op) (l r : Data D) (h1 : o ≠ .equal) (h2 : o ≠ .notEqual) :
    ∃ d n, operation ops cells held o l r = .val d n :=
  operation_val ops cells held o l r h1 h2
#assert_axioms C11_arithmetic_total

/-- integer `%` is total: the truncated remainder, an error value for a zero divisor, and
`i64::MIN % -1 = 0` -/
theorem C11_modulus_total {D : Type} (ops : DoubleOps D) (cells : Cells D) (held : List Nat)
    (a b : Int) :
    (b ≠ 0 → operation ops cells held .modulus (.int a) (.int b) = .val (.int (Int.tmod a b)) []) ∧
    operation ops cells held .modulus (.int a) (.int 0) = .val (.error .remUndefined) [] ∧
    operation ops cells held .modulus (.int i64Min) (.int (-1)) = .val (.int 0) [] :=
  ⟨operation_modulus_int ops cells held a b, operation_modulus_zero ops cells held a,
   operation_modulus_min ops cells held⟩
#assert_axioms C11_modulus_total

/-- **C11, what holds for every text and every store**: `execute` ends with a value or an error —
or blocks inside `DataArc::eq` (`deadlock .equal`: cyclic operands of `==` / `!=`,
`C11_counterexample_equal_cyclic`), or the model's heap recursion runs out of fuel (`fuelOut`:
not excluded by a theorem, never observed); and when it ends with a value or an error no
data lock is held.
Missing for `C11_full`: exactly the two outcomes named here. -/
theorem C11_partial {D : Type} (ops : DoubleOps D) (text : Str) (st : St D) (h : st.held = []) :
    ((execute ops text st).2.isValueOrError = true ∨ (execute ops text st).2 = .deadlock .equal ∨
      (execute ops text st).2 = .fuelOut) ∧
    ((execute ops text st).2.isValueOrError = true → (execute ops text st).1.held = []) :=
  ⟨Out.fine_nil_iff.1 (h ▸ (execute_keeps ops text st).2), fun _ => C11_execute_locks_released ops text st h⟩
#assert_axioms C11_partial

end Rfsm.Expr
