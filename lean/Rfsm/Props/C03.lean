import Rfsm.Audit
import Rfsm.Proofs.ReachLemmas
/-!
# C03 — Run-to-completion: internal work finishes before the next external event

Model: `macroLoop`, `mainLoop`, `awaitExternal`, `takeExternal`, `processExternal` of `Rfsm.Interp`
(transcribing `mainEventLoop` of `src/fsm.rs`), generic in the data model.

* the inner loop returns only when the session stopped, or no eventless transition is enabled and
  the internal queue is empty                                           — `C03_macrostep_complete`
* eventless transitions are taken before any internal event is dequeued — `C03_eventless_first`
* otherwise the *oldest* internal event is processed                    — `C03_oldest_internal_event`
* the external queue is only looked at after the macrostep is complete  — `C03_external_after_macrostep`
* external events are consumed in arrival order                         — `C03_fifo_dequeue`, `C03_queue_append_only`
* an event that enables no transition changes nothing                   — `C03_no_transition_no_change`
-/
namespace Rfsm.Interp
open Rfsm.Descriptor (Str)

variable {σ : Type}

/-- "macrostep complete": the session stopped, or its internal queue is empty and it is what an
    eventless selection that found nothing returned (from some session `s0`, not tied to a run) -/
def Quiescent (env : Env σ) (d : Doc) (s : Sess σ) : Prop :=
  s.running = false ∨ (s.iq = [] ∧ ∃ s0 : Sess σ, select env d none s0 = (s, []))

/-- C03 at full strength (for the model), three clauses: what `macroLoop` returns is `Quiescent`;
    microsteps and selection only append to the external queue; an external event without enabled
    transition changes neither configuration, history, `running`, the states to invoke nor the
    first-entry flags (`Kept`).  Eventless-first, oldest-first and the dequeue order are the separate
    theorems below. -/
def C03_full : Prop :=
  ∀ (σ : Type) (env : Env σ) (d : Doc),
    (∀ f (s s' : Sess σ), macroLoop env d f s = some s' → Quiescent env d s') ∧
    (∀ (s : Sess σ) (ev : Option Str) ts, ExtGrows s (microstep env d s ts) ∧ ExtGrows s (select env d ev s).1) ∧
    (∀ (s : Sess σ) (e : Event), childOf (forgetDoneChild (s.emit [.ext e.name]) e) e = none →
      (select env d (some e.name) (preExternal env d s e)).2 = [] → Kept s (processExternal env d s e))

theorem C03_macrostep_complete (env : Env σ) (d : Doc) : ∀ (f : Nat) (s s' : Sess σ),
    macroLoop env d f s = some s' → Quiescent env d s' := by
  intro f s s' h
  -- one case per leaf of `macroLoop`: it returns in cases 2 and 3 only
  fun_induction macroLoop env d f s
  case case1 => cases h
  case case2 hr => cases h; exact Or.inl (by simpa using hr)
  case case3 s _ _ _ hs hemp hiq => cases h; exact Or.inr ⟨hiq, s, by rw [hs, List.isEmpty_iff.1 hemp]⟩
  case case4 ih => exact ih h
  case case5 ih => exact ih h
  case case6 ih => exact ih h
#assert_axioms C03_macrostep_complete

/-- if an eventless transition is enabled it is taken now — the internal queue is not touched -/
theorem C03_eventless_first (env : Env σ) (d : Doc) (f : Nat) (s : Sess σ)
    (hr : s.running = true) (he : (select env d none s).2 ≠ []) :
    macroLoop env d (f + 1) s =
      macroLoop env d f (microstep env d (select env d none s).1 (select env d none s).2) := by
  rw [macroLoop_succ]
  simp [hr, he]
#assert_axioms C03_eventless_first

/-- if none is enabled and the internal queue is `e :: rest`, the next event processed is `e`
    (the oldest), with `_event` bound to it before selection -/
theorem C03_oldest_internal_event (env : Env σ) (d : Doc) (f : Nat) (s : Sess σ) (e : Event) (rest : List Event)
    (hr : s.running = true) (he : (select env d none s).2 = []) (hq : (select env d none s).1.iq = e :: rest) :
    let s1 := (select env d none s).1
    let s2 : Sess σ := { s1 with iq := rest, dm := env.setEvent s1.dm e, trace := s1.trace ++ [.int e.name] }
    macroLoop env d (f + 1) s =
      (if (select env d (some e.name) s2).2.isEmpty then macroLoop env d f (select env d (some e.name) s2).1
       else macroLoop env d f (microstep env d (select env d (some e.name) s2).1 (select env d (some e.name) s2).2)) := by
  intro s1 s2
  rw [macroLoop_succ]
  simp only [hr, he, hq, Bool.not_true, Bool.false_eq_true, ↓reduceIte, List.isEmpty_nil]
  rfl
#assert_axioms C03_oldest_internal_event

/-- the external queue is consulted only when the macrostep is complete: in every iteration of the
    outer loop, `awaitExternal` is applied to a session that `macroLoop` returned (and that is still
    running, after invoking, with an empty internal queue) -/
theorem C03_external_after_macrostep (env : Env σ) (d : Doc) (c : Str) (m f : Nat) (s : Sess σ)
    (feed : List (List Event)) (hr : s.running = true) :
    mainLoop env d c m (f + 1) s feed =
      match macroLoop env d m s with
      | none => none
      | some s1 =>
        if !s1.running then some (s1, false) else
        if !(runInvokes env d s1).iq.isEmpty then mainLoop env d c m f (runInvokes env d s1) feed else
        match awaitExternal c ((runInvokes env d s1).emit [.idle]) feed with
        | (s2, none, _) => some (s2, true)
        | (s2, some e, feed') => mainLoop env d c m f (handleExternal env d s2 e) feed' := by
  conv => lhs; unfold mainLoop
  simp only [hr, Bool.not_true, Bool.false_eq_true, ↓reduceIte]
  rfl
#assert_axioms C03_external_after_macrostep

/-- dequeuing takes the first event the invoke filter accepts; what is in front of it is discarded
    by that filter, what is behind it stays queued in the same order (`s0` can be taken to be `s`;
    the filter reads the registry only) -/
theorem C03_fifo_dequeue (c : Str) (q : List Event) (s s' : Sess σ) (e : Event)
    (h : takeExternal c s q = (s', some e)) :
    ∃ pre, q = pre ++ e :: s'.extq ∧
      (∀ x ∈ pre, ∃ s0 : Sess σ, s0.children = s.children ∧ acceptExternal c s0 x = false) := by
  rw [takeExternal_eq] at h
  obtain ⟨rfl, he⟩ := Prod.mk.inj h
  obtain ⟨rest, hd⟩ := List.head?_eq_some_iff.1 he
  refine ⟨q.takeWhile (fun x => !acceptExternal c s x), ?_, fun x hx => ⟨s, rfl, ?_⟩⟩
  · show q = _ ++ e :: (q.dropWhile _).tail
    rw [hd, List.tail_cons, ← hd, List.takeWhile_append_dropWhile]
  · simpa using List.all_eq_true.1 List.all_takeWhile x hx
#assert_axioms C03_fifo_dequeue

/-- nothing but dequeuing removes from the external queue: selection, microsteps and the whole
    processing of an external event only append to it (self-sent events) -/
theorem C03_queue_append_only (env : Env σ) (d : Doc) (s : Sess σ) (ev : Option Str) (ts : List Nat) (e : Event) :
    ExtGrows s (select env d ev s).1 ∧ ExtGrows s (microstep env d s ts) ∧
    ExtGrows s (processExternal env d s e) :=
  ⟨(select_absorbs env d ev s).ext, microstep_ext env d s ts, processExternal_ext env d s e⟩
#assert_axioms C03_queue_append_only

/-- an external event that enables no transition changes
    neither configuration, history, `running`, the states to invoke nor the first-entry flags -/
theorem C03_no_transition_no_change (env : Env σ) (d : Doc) (s : Sess σ) (e : Event)
    (hsel : (select env d (some e.name) (preExternal env d s e)).2 = []) :
    Kept s (processExternal env d s e) := by
  unfold processExternal
  simp only [hsel, List.isEmpty_nil, ↓reduceIte]
  exact (preExternal_kept env d s e).trans (select_absorbs env d _ _).kept
#assert_axioms C03_no_transition_no_change

/-- What is proved of `C03_full`: all three clauses as stated there, the third one for every
    external event (the hypothesis about `childOf` is not even needed for `Kept`).  What the model
    cannot express and is covered by the correspondence only: that the *real* external queue
    (`std::sync::mpsc`) is the FIFO list the model assumes. -/
theorem C03 : C03_full := by
  intro σ env d
  refine ⟨C03_macrostep_complete env d, ?_, ?_⟩
  · intro s ev ts
    exact ⟨microstep_ext env d s ts, (select_absorbs env d ev s).ext⟩
  · intro s e _ hsel
    exact C03_no_transition_no_change env d s e hsel
#assert_axioms C03

example : Quiescent (σ := Unit)
    { cond := fun dm _ _ => ({ dm := dm }, some true), exec := fun dm _ _ => { dm := dm },
      setEvent := fun dm _ => dm, initData := fun dm _ _ => { dm := dm },
      doneData := fun dm _ _ => ({ dm := dm }, []), invoke := fun dm _ _ _ => { dm := dm } }
    { states := [], transitions := [], root := 0 } { running := false, dm := () } := Or.inl rfl

end Rfsm.Interp
