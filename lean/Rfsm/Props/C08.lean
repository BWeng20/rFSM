import Rfsm.Audit
import Rfsm.Model.Exec
/-!
# C08 — Executable content runs in document order with SCXML error semantics

Model: `Rfsm.Interp.execItem / execItems / execRegions / foreachLoop / execSend` (`Rfsm/Model/Exec.lean`,
`src/executable_content.rs`) over an abstract data model `DMOps σ`, and `runContent` (how a block's
effects reach the session).  Theorems hold for every region table, every data model and every positive
fuel `f + 1` (at fuel 0 each function returns `(x, true)`).

Where the *code* raises `error.execution` and where it leaves that to the data model is part of
the model (see the header of `Rfsm/Model/Exec.lean`); the correspondence run on the real data
models (rfsm-expression, ECMAScript) checks it.  Evaluation errors that ended up without an event (P11)
are repaired in the code; the open known findings are `C08-ecma-assign-undeclared` and
`C08-send-target-double-error`.
-/
namespace Rfsm.Interp
open Rfsm.Descriptor (Str)

variable {σ : Type}

/-- document order and abort scope: the elements of a block run left to right; the first element
    that fails ends the block — nothing after it runs — and the failure is reported upwards -/
theorem C08_order (ops : DMOps σ) (rs : Regions) (cfg : List Nat) (caller : Option Str) (f : Nat)
    (it : Item) (rest : List Item) (x : XS σ) :
    execItems ops rs cfg caller (f + 1) [] x = (x, true) ∧
    execItems ops rs cfg caller (f + 1) (it :: rest) x =
      (match execItem ops rs cfg caller f it x with
       | (x', true) => execItems ops rs cfg caller f rest x'
       | (x', false) => (x', false)) := by
  constructor
  · simp [execItems]
  · conv => lhs; unfold execItems
    rfl
#assert_axioms C08_order

/-- `<if>`: the condition is evaluated exactly once; an erroring condition (`none`) counts as
    false; the then-branch runs iff it is true, otherwise the else-branch (which, for
    `<elseif>`, is a region holding the next `<if>`) -/
theorem C08_if (ops : DMOps σ) (rs : Regions) (cfg : List Nat) (caller : Option Str) (f : Nat)
    (c : Str) (t e : Nat) (x : XS σ) :
    execItem ops rs cfg caller (f + 1) (.if_ c t e) x =
      (let r := ops.cond x.dm cfg c
       let x0 := x.absorb r
       let x' := if r.val.isNone then { x0 with raised := x0.raised ++ [errorExecution] } else x0
       if r.val.getD false then
         (if t != 0 then execItems ops rs cfg caller f (regionOf rs t) x' else (x', true))
       else if e != 0 then execItems ops rs cfg caller f (regionOf rs e) x'
       else (x', true)) := by
  conv => lhs; unfold execItem
#assert_axioms C08_if

/-- if / elseif / else built as nested regions executes exactly the first branch whose condition
    is true: here for two conditions (the reader's construction is by the same step); fuel `f + 3` for
    the three levels `if_` → `execItems` (the else-region) → `if_` -/
theorem C08_if_elseif_else (ops : DMOps σ) (rs : Regions) (cfg : List Nat) (caller : Option Str) (f : Nat)
    (c1 c2 : Str) (t1 t2 e1 e2 : Nat) (x : XS σ)
    (he1 : e1 ≠ 0) (hr : regionOf rs e1 = [.if_ c2 t2 e2])
    (h1 : (ops.cond x.dm cfg c1).val = some false)
    (h2 : ((ops.cond (x.absorb (ops.cond x.dm cfg c1)).dm cfg c2).val).isSome = true) :
    execItem ops rs cfg caller (f + 3) (.if_ c1 t1 e1) x =
      (let x1 := x.absorb (ops.cond x.dm cfg c1)
       let r2 := ops.cond x1.dm cfg c2
       let x2 := x1.absorb r2
       if r2.val.getD false then
           (if t2 != 0 then execItems ops rs cfg caller f (regionOf rs t2) x2 else (x2, true))
         else if e2 != 0 then execItems ops rs cfg caller f (regionOf rs e2) x2
         else (x2, true)) := by
  rw [C08_if]
  simp only [h1, Option.isNone_some, Option.getD_some, Bool.false_eq_true, ↓reduceIte]
  have : (e1 != 0) = true := by simpa using he1
  simp only [this, ↓reduceIte, hr]
  rw [(C08_order ops rs cfg caller (f + 1) (.if_ c2 t2 e2) [] _).2, C08_if]
  have hn : ((ops.cond (x.absorb (ops.cond x.dm cfg c1)).dm cfg c2).val).isNone = false := by
    cases hv : (ops.cond (x.absorb (ops.cond x.dm cfg c1)).dm cfg c2).val with
    | none => rw [hv] at h2; cases h2
    | some _ => rfl
  simp only [hn, Bool.false_eq_true, ↓reduceIte]
  generalize (if (ops.cond (x.absorb (ops.cond x.dm cfg c1)).dm cfg c2).val.getD false = true then _ else _) = r
  obtain ⟨x', b⟩ := r
  cases b <;> simp [execItems]
#assert_axioms C08_if_elseif_else

/-- `<foreach>`: items are visited in order; before each body run `item` is bound to the element and
    `index` to its position; a failing body stops the loop and the enclosing block -/
theorem C08_foreach (ops : DMOps σ) (rs : Regions) (cfg : List Nat) (caller : Option Str) (f : Nat)
    (item index : Str) (body : Nat) (v : Str) (vs : List Str) (i : Nat) (x : XS σ) :
    foreachLoop ops rs cfg caller (f + 1) item index body [] i x = (x, true) ∧
    foreachLoop ops rs cfg caller (f + 1) item index body (v :: vs) i x =
      (let x1 := { x with dm := ops.foreachBind x.dm item index i v }
       let r := if body != 0 then execItems ops rs cfg caller f (regionOf rs body) x1 else (x1, true)
       if r.2 then foreachLoop ops rs cfg caller f item index body vs (i + 1) r.1 else (r.1, false)) := by
  constructor
  · simp [foreachLoop]
  · conv => lhs; unfold foreachLoop
#assert_axioms C08_foreach

/-- `<raise>` appends one internal event with the given name and changes nothing else -/
theorem C08_raise (ops : DMOps σ) (rs : Regions) (cfg : List Nat) (caller : Option Str) (f : Nat)
    (e : Str) (x : XS σ) :
    execItem ops rs cfg caller (f + 1) (.raise e) x =
      ({ x with raised := x.raised ++ [{ name := e, etype := 1 }] }, true) := by
  conv => lhs; unfold execItem
#assert_axioms C08_raise

/-- `<assign>` changes the data only through the data model's `assign`; its verdict decides
    whether the block goes on -/
theorem C08_assign (ops : DMOps σ) (rs : Regions) (cfg : List Nat) (caller : Option Str) (f : Nat)
    (loc e : Str) (x : XS σ) :
    execItem ops rs cfg caller (f + 1) (.assign loc e) x =
      (x.absorb (ops.assign x.dm cfg loc e), (ops.assign x.dm cfg loc e).val) := by
  conv => lhs; unfold execItem
#assert_axioms C08_assign

/-- `<log>` and `<script>` evaluate their expression exactly once; an evaluation error ends the
    block and (since the `fix:` commit for P11) `Expression::execute` / `Log::execute` raise one
    `error.execution` themselves, behind whatever the data model raised -/
theorem C08_log_script (ops : DMOps σ) (rs : Regions) (cfg : List Nat) (caller : Option Str) (f : Nat)
    (label e : Str) (x : XS σ) :
    execItem ops rs cfg caller (f + 1) (.expr e) x =
      ((if (ops.exec x.dm cfg e).val.isNone
        then { (x.absorb (ops.exec x.dm cfg e)) with raised := (x.absorb (ops.exec x.dm cfg e)).raised ++ [errorExecution] }
        else x.absorb (ops.exec x.dm cfg e)), (ops.exec x.dm cfg e).val.isSome) ∧
    execItem ops rs cfg caller (f + 1) (.log label e) x =
      (match (ops.exec x.dm cfg e).val with
       | some msg => ((x.absorb (ops.exec x.dm cfg e)).absorb (ops.log (ops.exec x.dm cfg e).dm msg), true)
       | none => ({ (x.absorb (ops.exec x.dm cfg e)) with
                     raised := (x.absorb (ops.exec x.dm cfg e)).raised ++ [errorExecution] }, false)) := by
  constructor
  · conv => lhs; unfold execItem
  · conv => lhs; unfold execItem
    rfl
#assert_axioms C08_log_script

/-- what a block does to the session: its raised events are appended to the internal queue in the
    order raised; a failure inside the block is not propagated — the next block (of the same state, or
    of the next state) runs regardless -/
theorem C08_block_effects (env : Env σ) (s : Sess σ) (c1 c2 : Nat) (h1 : c1 ≠ 0) :
    (runContent env s c1).iq = s.iq ++ (env.exec s.dm s.cfg c1).raised ∧
    [c1, c2].foldl (runContent env) s = runContent env (runContent env s c1) c2 := by
  constructor
  · unfold runContent
    simp [h1, Sess.absorb, Sess.emit]
  · rfl
#assert_axioms C08_block_effects

/-- error clause, one case of the part the code itself guarantees: a `<send>` without expression
    arguments, content or parameters and with a positive delay on `#_internal` places exactly one
    `error.execution` (carrying the send id) on the internal queue and fails (`p.typeExpr = []` in `hp`
    is not used) -/
theorem C08_send_illegal_delay (ops : DMOps σ) (cfg : List Nat) (caller : Option Str) (p : SendP) (x : XS σ)
    (hp : p.targetExpr = [] ∧ p.eventExpr = [] ∧ p.idLocation = [] ∧ p.hasContent = false ∧
          p.params = [] ∧ p.nameList = [] ∧ p.delayExpr = [] ∧ p.typeExpr = [])
    (hd : p.delayMs > 0) (ht : p.target = targetInternal) :
    execSend ops cfg caller p x =
      ({ x with raised := x.raised ++ [errExec (if p.name.isEmpty then none else some p.name) caller] }, false) := by
  obtain ⟨h1, h2, h3, h4, h5, h6, h7, _⟩ := hp
  unfold execSend
  simp [altValue, h1, h2, h3, h4, h5, h6, h7, evalParams, nameListValues, ht]
  -- left: the branch `p.delayMs = 0`, which `hd` excludes
  omega
#assert_axioms C08_send_illegal_delay

/-- error clause for `<if>` (since the `fix:` commit): an erroring condition raises exactly one
    `error.execution` beyond what the data model raises itself, counts as false, and the block goes on -/
theorem C08_if_cond_error (ops : DMOps σ) (rs : Regions) (cfg : List Nat) (caller : Option Str)
    (f : Nat) (c : Str) (x : XS σ) (herr : (ops.cond x.dm cfg c).val = none) :
    (execItem ops rs cfg caller (f + 1) (.if_ c 0 0) x).1.raised =
      x.raised ++ (ops.cond x.dm cfg c).raised ++ [errorExecution] ∧
    (execItem ops rs cfg caller (f + 1) (.if_ c 0 0) x).2 = true := by
  rw [C08_if]
  simp [herr, XS.absorb]
#assert_axioms C08_if_cond_error

/-- error clause for `<script>` and `<log>` (since the `fix:` commit for P11): the events on the
    queue after an erroring element are the old ones, what the data model raised itself, and ONE
    `error.execution` from the element; the block ends -/
theorem C08_script_error (ops : DMOps σ) (rs : Regions) (cfg : List Nat) (caller : Option Str)
    (f : Nat) (l e : Str) (x : XS σ) (herr : (ops.exec x.dm cfg e).val = none) :
    (execItem ops rs cfg caller (f + 1) (.expr e) x).1.raised =
      x.raised ++ (ops.exec x.dm cfg e).raised ++ [errorExecution] ∧
    (execItem ops rs cfg caller (f + 1) (.expr e) x).2 = false ∧
    (execItem ops rs cfg caller (f + 1) (.log l e) x).1.raised =
      x.raised ++ (ops.exec x.dm cfg e).raised ++ [errorExecution] ∧
    (execItem ops rs cfg caller (f + 1) (.log l e) x).2 = false := by
  rw [(C08_log_script ops rs cfg caller f l e x).1, (C08_log_script ops rs cfg caller f l e x).2]
  simp [herr, XS.absorb]
#assert_axioms C08_script_error

/-- the contract the code relies on (both real data models keep it; the oracle on the real data
    models checks it on every run): an evaluation that reports an error raises nothing itself -/
def QuietErrors (ops : DMOps σ) : Prop :=
  ∀ dm cfg e, (ops.exec dm cfg e).val = none → (ops.exec dm cfg e).raised = []

/-- C08 at full strength, error clause: *every* evaluation error of a `<script>` / `<log>` raises
    exactly one `error.execution` (the structural clauses are the theorems above) -/
def C08_full : Prop :=
  ∀ (σ : Type) (ops : DMOps σ) (rs : Regions) (cfg : List Nat) (caller : Option Str) (f : Nat) (l e : Str) (x : XS σ),
    QuietErrors ops → (ops.exec x.dm cfg e).val = none →
      (execItem ops rs cfg caller (f + 1) (.expr e) x).1.raised = x.raised ++ [errorExecution] ∧
      (execItem ops rs cfg caller (f + 1) (.log l e) x).1.raised = x.raised ++ [errorExecution]

theorem C08 : C08_full := by
  intro σ ops rs cfg caller f l e x hq herr
  have h := C08_script_error ops rs cfg caller f l e x herr
  rw [hq _ _ _ herr] at h
  exact ⟨by simpa using h.1, by simpa using h.2.2.1⟩
#assert_axioms C08

/-- without the contract the element's own event comes on top: a data model that raises inside
    `execute` AND reports the error gets two events -/
theorem C08_two_events_without_contract (ops : DMOps σ) (rs : Regions) (cfg : List Nat) (caller : Option Str)
    (f : Nat) (e : Str) (x : XS σ) (herr : (ops.exec x.dm cfg e).val = none)
    (hr : (ops.exec x.dm cfg e).raised = [errorExecution]) :
    (execItem ops rs cfg caller (f + 1) (.expr e) x).1.raised = x.raised ++ [errorExecution, errorExecution] := by
  rw [(C08_script_error ops rs cfg caller f [] e x herr).1, hr]
  simp
#assert_axioms C08_two_events_without_contract

/-- the second clause of `C08_order` (document order, abort scope); the other clauses of the property
    are the separate theorems above -/
theorem C08_partial (ops : DMOps σ) (rs : Regions) (cfg : List Nat) (caller : Option Str) (f : Nat)
    (it : Item) (rest : List Item) (x : XS σ) :
    execItems ops rs cfg caller (f + 1) (it :: rest) x =
      (match execItem ops rs cfg caller f it x with
       | (x', true) => execItems ops rs cfg caller f rest x'
       | (x', false) => (x', false)) :=
  (C08_order ops rs cfg caller f it rest x).2
#assert_axioms C08_partial

end Rfsm.Interp
