import Rfsm.Audit
import Rfsm.Proofs.HistoryLemmas
import Rfsm.Props.C01
/-!
# C06 — History states restore exactly what was active when the parent was left

Model: `exitStates` / `exitPrepare` / `historyRecord` / `histVal` (recording), `addDesc` / `addAnc`
(restoring and default), `entryContent` (where the default transition's content runs) of
`Rfsm.Interp`, transcribing `exitStates`, `addDescendantStatesToEnter`, `enterStates` of
`src/fsm.rs`.
-/
namespace Rfsm.Interp

variable {σ : Type}

/-- The statement called C06 at full strength: (record) the first clause of `C06_record`; (restore,
    soundness half) entering a history state whose value `vs` holds no history state enters every
    member of `vs`.  That nothing else is entered, and the default clauses, are not part of it.  Fuel
    `f + 2`: one level for the history state, one for its members. -/
def C06_full : Prop :=
  ∀ (σ : Type) (env : Env σ) (d : Doc) (s : Sess σ) (ts : List Nat),
    -- record
    (∀ sid h, sid ∈ computeExitSet d s.hv s.cfg ts → h ∈ (getState d sid).history →
      (∀ s2, h ∈ (getState d s2).history → s2 = sid) →
      tget (exitStates env d s ts).hv h = some (histVal d s.cfg sid h)) ∧
    -- restore (soundness half): recorded non-history states are entered
    (∀ (hv : Table) f h acc vs, isHistoryState d h = true → tget hv h = some vs →
      (∀ v ∈ vs, isHistoryState d v = false) → ∀ v ∈ vs, v ∈ (addDesc d hv (f + 2) h acc).toEnter)

/-- (record) when a state owning history child `h` is exited, `h` records the active children
    (shallow) resp. active atomic descendants (deep) of the configuration *before* the exit; history
    states of states that stay active keep their value.  The uniqueness hypothesis holds in conformant
    documents (`history_owner`). -/
theorem C06_record (env : Env σ) (d : Doc) (s : Sess σ) (ts : List Nat) :
    (∀ sid h, sid ∈ computeExitSet d s.hv s.cfg ts → h ∈ (getState d sid).history →
      (∀ s2, h ∈ (getState d s2).history → s2 = sid) →
      tget (exitStates env d s ts).hv h = some (histVal d s.cfg sid h)) ∧
    (∀ h, (∀ sid ∈ computeExitSet d s.hv s.cfg ts, h ∉ (getState d sid).history) →
      tget (exitStates env d s ts).hv h = tget s.hv h) :=
  ⟨fun sid h hs hh hu => exitStates_records env d s ts sid h hs hh hu,
   fun h hn => exitStates_keeps env d s ts h hn⟩
#assert_axioms C06_record

/-- what is recorded: shallow = members of the configuration whose parent is the exited state,
    deep = atomic members that are descendants of it -/
theorem C06_recorded_value (d : Doc) (cfg : List Nat) (sid hid x : Nat) :
    x ∈ histVal d cfg sid hid ↔
      x ∈ cfg ∧ (if (getState d hid).histType = 2 then isAtomicStateId d x = true ∧ isDescendant d x sid = true
                 else parentOf d x = sid) := by
  unfold histVal
  by_cases h : (getState d hid).histType = 2
  · simp [h, mem_foldl_oadd]
  · simp [h, mem_foldl_oadd]
#assert_axioms C06_recorded_value

/-- (restore) a transition target that is a history state with a recorded value enters every
    recorded state -/
theorem C06_restore (d : Doc) (hv : Table) (f h : Nat) (acc : EntryAcc) (vs : List Nat)
    (hh : isHistoryState d h = true) (hval : tget hv h = some vs)
    (hvs : ∀ v ∈ vs, isHistoryState d v = false) :
    ∀ v ∈ vs, v ∈ (addDesc d hv (f + 2) h acc).toEnter := by
  intro v hv'
  rw [addDesc_restore hv _ h acc vs hh hval]
  exact (passes_adds hv f _ vs vs acc).1 v hv' (hvs v hv')
#assert_axioms C06_restore

/-- (restore) with a recorded value the default transition is not used: the step is exactly
    "add descendants of each recorded state, then their ancestors up to the history's parent" and
    `defaultHistoryContent` is not touched at this level -/
theorem C06_restore_step (d : Doc) (hv : Table) (f h : Nat) (acc : EntryAcc) (vs : List Nat)
    (hh : isHistoryState d h = true) (hval : tget hv h = some vs) :
    addDesc d hv (f + 1) h acc =
      vs.foldl (fun a s => addAnc d hv f s (getState d h).parent a)
        (vs.foldl (fun a s => addDesc d hv f s a) acc) :=
  addDesc_restore hv f h acc vs hh hval
#assert_axioms C06_restore_step

/-- (default) only if nothing was recorded the default transition is followed, and its content is
    registered for the history state's parent -/
theorem C06_default_step (d : Doc) (hv : Table) (f h : Nat) (acc : EntryAcc)
    (hh : isHistoryState d h = true) (hval : tget hv h = none) :
    addDesc d hv (f + 1) h acc =
      let dt := histTransition d h
      let acc1 := { acc with histContent := hcPut acc.histContent (getState d h).parent dt.content }
      dt.target.foldl (fun a s => addAnc d hv f s (getState d h).parent a)
        (dt.target.foldl (fun a s => addDesc d hv f s a) acc1) := by
  conv => lhs; unfold addDesc
  simp only [hh, ↓reduceIte, hval]
#assert_axioms C06_default_step

/-- (default) the registered content runs as part of entering the parent state, after the parent's
    onentry blocks and after the initial transition's content, exactly once per entry -/
theorem C06_default_content_position (d : Doc) (acc : EntryAcc) (sid c : Nat)
    (hc : hcGet acc.histContent sid = some c) :
    entryContent d acc sid =
      ((getState d sid).onentry
        ++ (if acc.defaultEntry.contains sid && (getState d sid).initial > 0
            then [(getTrans d (getState d sid).initial).content] else [])
        ++ [c]).filter (· > 0) := by
  unfold entryContent
  simp only [hc]
#assert_axioms C06_default_content_position

/-- (default) … and not otherwise: without a registration nothing of a history default runs -/
theorem C06_no_default_content (d : Doc) (acc : EntryAcc) (sid : Nat)
    (hc : hcGet acc.histContent sid = none) :
    entryContent d acc sid =
      ((getState d sid).onentry
        ++ (if acc.defaultEntry.contains sid && (getState d sid).initial > 0
            then [(getTrans d (getState d sid).initial).content] else [])).filter (· > 0) := by
  unfold entryContent
  simp only [hc, List.append_nil]
#assert_axioms C06_no_default_content

/-- what a history table may contain for history state `h`: members are proper states (never
    history pseudo-states); for a deep history they are atomic descendants of `h`'s parent, for a
    shallow one children of `h`'s parent -/
def GoodValue (d : Doc) (h : Nat) (vs : List Nat) : Prop :=
  ∀ v ∈ vs, isHistoryState d v = false ∧
    (if (getState d h).histType = 2 then
      isAtomicStateId d v = true ∧ isDescendant d v (parentOf d h) = true
     else parentOf d v = parentOf d h)

/-- **Invariant of every reachable session of every conformant document**: each stored history
    value consists of non-history states below the history state's parent (children for shallow,
    atomic descendants for deep history): the shape `C06_recorded_value` gives one recorded value,
    for everything in the table of a whole run. -/
theorem C06_stored_values (env : Env σ) (d : Doc) (hc : conformantB d = true) (s : Sess σ)
    (hr : Reach env d s) : ∀ h vs, tget s.hv h = some vs → GoodValue d h vs := by
  refine Reach.inv (fun _ hv => ∀ h vs, tget hv h = some vs → GoodValue d h vs) ?_ ?_ hr
  · intro s0 _ hhv h vs hv
    rw [enterStates_hv, hhv] at hv
    cases hv
  · intro s ts hreach ih h vs hv
    obtain ⟨o, e, r, hm⟩ := microstep_eq env d s ts
    rw [hm] at hv
    -- the entry is either the one this exit recorded from the (history-free) configuration, or old
    rcases exitStates_hv_cases env d hc s ts h with ⟨_, _, hrec⟩ | hkeep
    · obtain rfl := Option.some.inj (hrec.symm.trans hv)
      intro v hvmem
      have hmem := (C06_recorded_value d s.cfg (parentOf d h) h v).1 hvmem
      exact ⟨(C01_no_duplicates_no_history env d hc s hreach).2 v hmem.1, hmem.2⟩
    · exact ih h vs (hkeep ▸ hv)
#assert_axioms C06_stored_values

/-- (restore, whole runs) in every reachable session of a conformant document, a transition that
    targets a history state with a stored value enters every stored state — `C06_restore` without
    its side condition, which `C06_stored_values` discharges -/
theorem C06_restore_reachable (env : Env σ) (d : Doc) (hc : conformantB d = true) (s : Sess σ)
    (hr : Reach env d s) (f h : Nat) (acc : EntryAcc) (vs : List Nat)
    (hh : isHistoryState d h = true) (hval : tget s.hv h = some vs) :
    ∀ v ∈ vs, v ∈ (addDesc d s.hv (f + 2) h acc).toEnter :=
  C06_restore d s.hv f h acc vs hh hval (fun v hv => (C06_stored_values env d hc s hr h vs hval v hv).1)
#assert_axioms C06_restore_reachable

/-- (restore, "together with the ancestors") a history target with a stored value also enters, for
    every stored state, all its proper ancestors below the history state's parent — e.g. the
    intermediate compound states of a deep history -/
theorem C06_restore_ancestors (d : Doc) (hv : Table) (f h : Nat) (acc : EntryAcc) (vs : List Nat)
    (hh : isHistoryState d h = true) (hval : tget hv h = some vs) :
    ∀ v ∈ vs, ∀ a ∈ getProperAncestors d v (getState d h).parent,
      a ∈ (addDesc d hv (f + 2) h acc).toEnter := by
  intro v hv' a ha
  rw [addDesc_restore hv _ h acc vs hh hval]
  exact (passes_adds hv f _ vs vs acc).2 v hv' a ha
#assert_axioms C06_restore_ancestors

/-- **exactness half, first case**: in every reachable session of a conformant document, targeting
    a SHALLOW history state whose stored states are plain atomic children re-enters *exactly* the
    stored states — the entry set grows by them and by nothing else (their parent is the history's
    parent, which the transition's own ancestor pass handles).  For stored compound or parallel
    children the default / region completion is entered in addition ("what legality needs"); for that
    case and for deep history exactness is not proved. -/
theorem C06_restore_exact_shallow_atomic (env : Env σ) (d : Doc) (hc : conformantB d = true) (s : Sess σ)
    (hr : Reach env d s) (f h : Nat) (acc : EntryAcc) (vs : List Nat)
    (hh : isHistoryState d h = true) (hsh : (getState d h).histType ≠ 2) (hval : tget s.hv h = some vs)
    (hat : ∀ v ∈ vs, isCompoundState d v = false ∧ isParallelState d v = false) :
    ∀ x, x ∈ (addDesc d s.hv (f + 2) h acc).toEnter ↔ x ∈ acc.toEnter ∨ x ∈ vs := by
  apply history_restores_exactly s.hv f h acc vs hh hval
  intro v hv
  have hg := C06_stored_values env d hc s hr h vs hval v hv
  rw [if_neg hsh] at hg
  exact ⟨hg.1, (hat v hv).1, (hat v hv).2, hg.2⟩
#assert_axioms C06_restore_exact_shallow_atomic

/-- `C06_full` as defined above holds.  It is not the whole property; beyond it this file proves the
    default clauses (`C06_default_*`), `C06_restore_ancestors`, for whole runs `C06_stored_values` and
    `C06_restore_reachable`, and exactness in one case (`C06_restore_exact_shallow_atomic`).
    **Not proved**: "re-enters exactly the recorded states together with the ancestors and parallel
    siblings needed for a legal configuration" beyond that case — the completeness half (nothing else
    is entered) needs the termination measure for `addDesc`/`addAnc` that is also what `C01_full`
    lacks (see `C01_partial`). -/
theorem C06_partial : C06_full := by
  intro σ env d s ts
  exact ⟨(C06_record env d s ts).1, fun hv f h acc vs hh hval hvs => C06_restore d hv f h acc vs hh hval hvs⟩
#assert_axioms C06_partial

/-! ### Non-vacuity (document `exDoc2`: compound 2 with shallow history 5, children 3 and 4) -/
def exDoc2 : Doc :=
  { root := 1,
    states := [
      { id := 1, docId := 1, kids := [2, 6], initial := 20 },
      { id := 2, docId := 2, parent := 1, kids := [3, 4], initial := 21, history := [5], transitions := [10] },
      { id := 3, docId := 3, parent := 2, transitions := [11] },
      { id := 4, docId := 4, parent := 2 },
      { id := 5, docId := 5, parent := 2, histType := 1, transitions := [12] },
      { id := 6, docId := 6, parent := 1, transitions := [13] }],
    transitions := [
      { id := 10, docId := 10, events := [[120]], source := 2, target := [6] },
      { id := 11, docId := 11, events := [[97]], source := 3, target := [4] },
      { id := 12, docId := 12, source := 5, target := [3], content := 7 },
      { id := 13, docId := 13, events := [[98]], source := 6, target := [5] },
      { id := 20, source := 1, target := [2] }, { id := 21, source := 2, target := [3] }] }

-- leaving state 2 while child 4 is active records [4] for history state 5 …
example : histVal exDoc2 [1, 2, 4] 2 5 = [4] := by decide
-- … and targeting 5 later re-enters 4 (and the parent 2), not the default 3
example : (computeEntrySet exDoc2 [(5, [4])] [13]).toEnter = [4, 2] := by decide
-- without a value the default transition is followed and its content registered for the parent
example : (computeEntrySet exDoc2 [] [13]).toEnter = [3, 2] ∧
          (computeEntrySet exDoc2 [] [13]).histContent = [(2, 7)] := by decide

-- `C06_restore_ancestors` on C01's exDocH (deep history 5 of state 2, stored value [4], 4 ⊂ 3 ⊂ 2): 3 is entered
example : getProperAncestors exDocH 4 (getState exDocH 5).parent = [3] ∧
    3 ∈ (addDesc exDocH [(5, [4])] 3 5 {}).toEnter := by decide

-- `C06_restore_exact_shallow_atomic` on exDoc2: shallow history 5 with stored [4] (4 is a plain atomic
-- child of 2): exactly 4 is added
example : (addDesc exDoc2 [(5, [4])] 3 5 {}).toEnter = [4] ∧ isCompoundState exDoc2 4 = false ∧
    isParallelState exDoc2 4 = false ∧ (getState exDoc2 5).histType ≠ 2 := by decide

-- hypotheses of `C06_stored_values` / `C06_restore_reachable` on a concrete run: exDoc2 is conformant,
-- and after start-up and event "x" (transition 10 leaves state 2 while 3 is active) the reachable
-- session stores [3] for history state 5
example : conformantB exDoc2 = true := by decide +kernel
example :
    let s := startSession unitEnv exDoc2 ()
    let s2 := microstep unitEnv exDoc2 (select unitEnv exDoc2 (some [120]) s).1 (select unitEnv exDoc2 (some [120]) s).2
    tget s2.hv 5 = some [3] ∧ s2.cfg = [1, 6] := by decide +kernel
example : Reach unitEnv exDoc2
    (microstep unitEnv exDoc2 (select unitEnv exDoc2 (some [120]) (startSession unitEnv exDoc2 ())).1
      (select unitEnv exDoc2 (some [120]) (startSession unitEnv exDoc2 ())).2) :=
  Reach.micro _ (startSession_reach unitEnv exDoc2 ())

end Rfsm.Interp
