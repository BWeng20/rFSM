import Rfsm.Audit
import Rfsm.Proofs.ExprOps
import Rfsm.Proofs.ExprGrouping
import Rfsm.Proofs.ExprLexerLemmas
/-!
# C10 — rfsm-expression evaluation follows the documented language semantics

Model: `Rfsm.Expr` (`ExprLexer`, `ExprParser`, `ExprData`, `ExprEval`), a transcription of
`src/expression_engine/{lexer,parser,expressions}.rs`, the `operation_*` functions of
`src/datamodel/mod.rs` and the compile cache of `src/datamodel/expression_engine.rs`.
Doubles are abstract (`DoubleOps`): nothing below depends on floating point.

State after the repairs: the grouping clause holds at full strength (`C10_grouping`: equal
priorities group left to right, `=`/`?=` to the right; `10 - 4 - 3 = 3` is a regression theorem),
integers are compared exactly (`C10_compare_integers`), `-e` no longer swallows the letter.  Still
false: `1-2` is not `1 - 2` (`C10_counterexample_whitespace`: a `-` directly before a digit is
always the sign of a literal); not proved: `C10_parens_full` (tested, see below).
-/
namespace Rfsm.Expr

/-
`BTree`, `BTree.toExpr`, `BTree.inorder`, `BTree.topPrio`, `WellGrouped` and `chainStack` are defined in
`Rfsm.Proofs.ExprGrouping`.
-/

def binaryOps (rest : List (Op × Expr)) : Prop := ∀ p ∈ rest, p.1 ≠ .not

/-- the grouping clause: what `stack_to_expression` builds from an infix chain of binary operators -/
def C10_grouping_full : Prop :=
  ∀ (a0 : Expr) (rest : List (Op × Expr)), binaryOps rest →
    ∃ t : BTree, t.inorder = (a0, rest) ∧ WellGrouped t ∧
      stackToExpr (stackFuel (chainStack a0 rest)) (chainStack a0 rest) = .ok (some t.toExpr) []

/-- cached evaluation = fresh evaluation, as long as a source id determines its text -/
def C10_cache_full : Prop :=
  ∀ (textOf : Nat → Str) (cache : Cache), CacheOK textOf cache → ∀ id,
    (compile cache (textOf id) id).2 = parse (textOf id) ∧
    CacheOK textOf (compile cache (textOf id) id).1

/-- redundant parentheses around a whole expression do not change what is parsed.  Without NUL: one
standing alone ends the text at top level, but only the sub-expression inside parentheses -/
def C10_parens_full : Prop :=
  ∀ (text : Str) (e : Expr), parse text = .ok e → (∀ c ∈ text, c ≠ 0) →
    parse ([40] ++ text ++ [41]) = .ok e

/-- incidental white space, part 1: amount and kind of the white space in front of a token do not
matter -/
def C10_whitespace_gap : Prop :=
  ∀ (stops : List Ch) (ws : Str) (inp : Str), (∀ c ∈ ws, isWhitespace c = true) →
    nextToken stops (ws ++ inp) = nextToken stops inp

/-- incidental white space, part 2: a blank between an operand and a binary operator, or between
the operator and the next operand, may be left out (`a op b` = `a␣op␣b`); stated for integer
operands -/
def C10_whitespace_tight : Prop :=
  ∀ (a b : Nat) (o : Str), o ∈ [[43], [45], [42], [47], [37]] →
    parse (natToStr a ++ o ++ natToStr b) = parse (natToStr a ++ [32] ++ o ++ [32] ++ natToStr b)

def C10_whitespace_full : Prop := C10_whitespace_gap ∧ C10_whitespace_tight

def C10_full : Prop :=
  C10_grouping_full ∧ C10_cache_full ∧ C10_parens_full ∧ C10_whitespace_full

/-! ## The former counterexamples, on the model of the repaired code (regression) -/

/-- `10 - 4 - 3` -/
def text_10_4_3 : Str := [49, 48, 32, 45, 32, 52, 32, 45, 32, 51]

theorem C10_regression_parse :
    parse text_10_4_3 =
      .ok (.op .minus (.op .minus (.const (.int 10)) (.const (.int 4))) (.const (.int 3))) := rfl
#assert_axioms C10_regression_parse

/-- `10 - 4 - 3` evaluates to 3 (for every `DoubleOps`) -/
theorem C10_regression_value {D : Type} (ops : DoubleOps D) :
    (execute ops text_10_4_3 ⟨[], [], []⟩).2 = .ok ⟨4, false⟩ ∧
    (execute ops text_10_4_3 ⟨[], [], []⟩).1.get 4 = .int 3 := ⟨rfl, rfl⟩
#assert_axioms C10_regression_value

/-- `100 / 10 / 5` parses as `(100 / 10) / 5` -/
theorem C10_regression_divide :
    parse [49, 48, 48, 32, 47, 32, 49, 48, 32, 47, 32, 53] =
      .ok (.op .divide (.op .divide (.const (.int 100)) (.const (.int 10))) (.const (.int 5))) := rfl
#assert_axioms C10_regression_divide

/-- assignments still group to the right: `a = b = 1` is `a = (b = 1)` -/
theorem C10_regression_assign_right :
    parse [97, 32, 61, 32, 98, 32, 61, 32, 49] =
      .ok (.assign (.var [97]) (.assign (.var [98]) (.const (.int 1)))) := rfl
#assert_axioms C10_regression_assign_right

/-! ## Grouping -/

/-- **C10, grouping clause, full strength.**  For every infix chain of binary operators over
arbitrary operand expressions (unbounded), `stack_to_expression` returns a tree whose in-order
reading is the chain and which has the documented grouping: priorities are respected, equal
priorities group from left to right, `=` and `?=` from right to left. -/
theorem C10_grouping : C10_grouping_full := stackToExpr_chain
#assert_axioms C10_grouping

/-- the tree of `C10_grouping` is *the* well grouped tree of the chain: a well grouped tree is
determined by its in-order reading, so the parser's result is characterised completely -/
theorem C10_grouping_unique (t1 t2 : BTree) (h1 : WellGrouped t1) (h2 : WellGrouped t2)
    (hin : t1.inorder = t2.inorder) : t1 = t2 := wellGrouped_unique t1 t2 h1 h2 hin
#assert_axioms C10_grouping_unique

/-- non-vacuity: `12 + 2 * 4` is grouped `12 + (2 * 4)` -/
example :
    stackToExpr (stackFuel (chainStack (.const (.int 12)) [(.plus, .const (.int 2)), (.multiply, .const (.int 4))]))
      (chainStack (.const (.int 12)) [(.plus, .const (.int 2)), (.multiply, .const (.int 4))]) =
    .ok (some (.op .plus (.const (.int 12)) (.op .multiply (.const (.int 2)) (.const (.int 4))))) [] := rfl

/-! ## The operator table against mathematical integers -/

section table
variable {D : Type} (ops : DoubleOps D) (cells : Cells D) (held : List Nat)

/-- Integer `+ - *` stay Integer and saturate: the result is the exact result clamped to `i64` -/
theorem C10_integer_saturating (a b : Int) :
    operation ops cells held .plus (.int a) (.int b) = .val (.int (clampI64 (a + b))) [] ∧
    operation ops cells held .minus (.int a) (.int b) = .val (.int (clampI64 (a - b))) [] ∧
    operation ops cells held .multiply (.int a) (.int b) = .val (.int (clampI64 (a * b))) [] :=
  ⟨operation_plus_int ops cells held a b, operation_minus_int ops cells held a b,
   operation_multiply_int ops cells held a b⟩
#assert_axioms C10_integer_saturating

/-- clamping is the identity inside the `i64` range and pins to the bounds outside -/
theorem C10_clamp (v : Int) :
    InI64 (clampI64 v) ∧ (InI64 v → clampI64 v = v) ∧
    (i64Max < v → clampI64 v = i64Max) ∧ (v < i64Min → clampI64 v = i64Min) :=
  ⟨clampI64_inI64 v, clampI64_of_inI64, clampI64_above, clampI64_below⟩
#assert_axioms C10_clamp

/-- `%` on integers is the truncated remainder for every non-zero divisor (`i64::MIN % -1` is 0);
a zero divisor yields an error value -/
theorem C10_integer_modulus (a b : Int) (hb : b ≠ 0) :
    operation ops cells held .modulus (.int a) (.int b) = .val (.int (Int.tmod a b)) [] ∧
    operation ops cells held .modulus (.int a) (.int 0) = .val (.error .remUndefined) [] :=
  ⟨operation_modulus_int ops cells held a b hb, operation_modulus_zero ops cells held a⟩
#assert_axioms C10_integer_modulus

/-- division yields a Double (or the NaN error value), never an Integer -/
theorem C10_divide_yields_double (a b : Int) :
    operation ops cells held .divide (.int a) (.int b) =
      if ops.isNaN (ops.div (ops.ofInt a) (ops.ofInt b)) then .val (.error .divideNaN) []
      else .val (.dbl (ops.div (ops.ofInt a) (ops.ofInt b))) [] :=
  operation_divide_int ops cells held a b
#assert_axioms C10_divide_yields_double

/-- Double contagion for `+ - * %`: one Double operand makes the result a Double -/
theorem C10_double_contagion (a : Int) (b : D) :
    operation ops cells held .plus (.int a) (.dbl b) = .val (.dbl (ops.add (ops.ofInt a) b)) [] ∧
    operation ops cells held .plus (.dbl b) (.int a) = .val (.dbl (ops.add b (ops.ofInt a))) [] ∧
    operation ops cells held .minus (.int a) (.dbl b) = .val (.dbl (ops.sub (ops.ofInt a) b)) [] ∧
    operation ops cells held .minus (.dbl b) (.int a) = .val (.dbl (ops.sub b (ops.ofInt a))) [] ∧
    operation ops cells held .multiply (.int a) (.dbl b) = .val (.dbl (ops.mul (ops.ofInt a) b)) [] ∧
    operation ops cells held .multiply (.dbl b) (.int a) = .val (.dbl (ops.mul b (ops.ofInt a))) [] ∧
    operation ops cells held .modulus (.int a) (.dbl b) = .val (.dbl (ops.rem (ops.ofInt a) b)) [] ∧
    operation ops cells held .modulus (.dbl b) (.int a) = .val (.dbl (ops.rem b (ops.ofInt a))) [] :=
  ⟨rfl, rfl, rfl, rfl, rfl, rfl, rfl, rfl⟩
#assert_axioms C10_double_contagion

/-- `+` aggregates strings, arrays (merge / append one element) and maps (right side wins) -/
theorem C10_plus_aggregates (s t : Str) (a1 a2 : List Ref) (m1 m2 : List (Str × Ref)) :
    operation ops cells held .plus (.str s) (.str t) = .val (.str (s ++ t)) [] ∧
    operation ops cells held .plus (.array a1) (.array a2) = .val (.array (a1 ++ a2)) [] ∧
    operation ops cells held .plus (.array a1) (.str t) =
      .val (.array (a1 ++ [⟨cells.length, false⟩])) [.str t] ∧
    operation ops cells held .plus (.map m1) (.map m2) = .val (.map (mapExtend m1 m2)) [] :=
  ⟨rfl, rfl, rfl, rfl⟩
#assert_axioms C10_plus_aggregates

/-- string comparison is the lexicographic order of the code points -/
theorem C10_compare_strings (s t : Str) :
    operation ops cells held .less (.str s) (.str t) = .val (.bool (strLt s t)) [] ∧
    operation ops cells held .greater (.str s) (.str t) = .val (.bool (strLt t s)) [] :=
  ⟨operation_less_str ops cells held s t, rfl⟩
#assert_axioms C10_compare_strings

/-- two Integers are compared exactly (the mathematical order, also beyond 2^53); for an Integer and a
Double see `operation_less_int_dbl` -/
theorem C10_compare_integers (a b : Int) :
    operation ops cells held .less (.int a) (.int b) = .val (.bool (decide (a < b))) [] ∧
    operation ops cells held .lessEqual (.int a) (.int b) = .val (.bool (decide (a ≤ b))) [] ∧
    operation ops cells held .greater (.int a) (.int b) = .val (.bool (decide (b < a))) [] ∧
    operation ops cells held .greaterEqual (.int a) (.int b) = .val (.bool (decide (b ≤ a))) [] :=
  ⟨rfl, rfl, rfl, rfl⟩
#assert_axioms C10_compare_integers

/-- regression: `9007199254740992 < 9007199254740993` -/
theorem C10_regression_int_compare :
    operation ops cells held .less (.int 9007199254740992) (.int 9007199254740993) =
      .val (.bool true) [] := rfl
#assert_axioms C10_regression_int_compare

end table

/-! ## White space and parentheses -/

theorem C10_whitespace_gap_holds : C10_whitespace_gap := fun stops ws inp h => by
  unfold nextToken
  rw [eatSpace_append_ws ws inp h]
#assert_axioms C10_whitespace_gap_holds

/-- `1-2` is not `1 - 2`: the `-` is lexed as the sign of the literal `-2` -/
theorem C10_counterexample_whitespace : ¬ C10_whitespace_tight := by
  intro h
  have := h 1 2 [45] (by simp)
  have h1 : parse (natToStr 1 ++ [45] ++ natToStr 2) = .err .failedEvaluate := rfl
  have h2 : parse (natToStr 1 ++ [32] ++ [45] ++ [32] ++ natToStr 2) =
      .ok (.op .minus (.const (.int 1)) (.const (.int 2))) := rfl
  rw [h1, h2] at this
  cases this
#assert_axioms C10_counterexample_whitespace

/-- regression: `-e` no longer swallows the letter: `5-e` parses like `5 - e`, `5-ex` like `5 - ex` -/
theorem C10_regression_minus_e :
    parse [53, 45, 101] = parse [53, 32, 45, 32, 101] ∧
    parse [53, 45, 101, 120] = .ok (.op .minus (.const (.int 5)) (.var [101, 120])) := ⟨rfl, rfl⟩
#assert_axioms C10_regression_minus_e

/-- `+ * / %` are fine without blanks (tests on concrete texts, evaluated by the kernel):
`7+2`, `7*2`, `7/2`, `7%2` parse like their spaced forms -/
example : parse [55, 43, 50] = parse [55, 32, 43, 32, 50] := rfl
example : parse [55, 42, 50] = parse [55, 32, 42, 32, 50] := rfl
example : parse [55, 47, 50] = parse [55, 32, 47, 32, 50] := rfl
example : parse [55, 37, 50] = parse [55, 32, 37, 32, 50] := rfl

/-- redundant parentheses (tests on concrete texts, evaluated by the kernel; the universal
statement `C10_parens_full` is not proved — it needs a simulation between the token loops run with
different stop sets; the harness checks it on every generated chain):
`(10 - 4 - 3)`, `((1) + (2))`, `(a.b)` parse like the texts without them -/
example : parse ([40] ++ text_10_4_3 ++ [41]) = parse text_10_4_3 := rfl
example : parse [40, 40, 49, 41, 32, 43, 32, 40, 50, 41, 41] = parse [49, 32, 43, 32, 50] := rfl
example : parse [40, 97, 46, 98, 41] = parse [97, 46, 98] := rfl

/-! ## Compilation cache -/

theorem C10_cache : C10_cache_full := compile_eq_parse
#assert_axioms C10_cache

/-- the empty cache of a new session satisfies the invariant -/
example (textOf : Nat → Str) : CacheOK textOf [] := cacheOK_nil textOf

/-- evaluation through the datamodel does not depend on what is cached -/
theorem C10_cached_evaluation {D : Type} (ops : DoubleOps D) (textOf : Nat → Str) (cache : Cache)
    (h : CacheOK textOf cache) (st : St D) (id : Nat) :
    (dmExecute ops ⟨st, cache⟩ (textOf id) id).2 = (dmExecute ops ⟨st, []⟩ (textOf id) id).2 ∧
    (dmExecute ops ⟨st, cache⟩ (textOf id) id).1.st = (dmExecute ops ⟨st, []⟩ (textOf id) id).1.st :=
  dmExecute_congr ops st (((compile_eq_parse textOf cache h id).1).trans
    (compile_eq_parse textOf [] (cacheOK_nil textOf) id).1.symm)
#assert_axioms C10_cached_evaluation

/-- **C10, what is proved of `C10_full`**: the grouping clause, the cache clause and the first
white-space clause, each at full strength.
Missing for `C10_full`: `C10_parens_full` (not proved: tested on concrete texts above and by the
harness on every generated chain) and `C10_whitespace_tight`, which is false on the code
(`C10_counterexample_whitespace`: `1-2`). -/
theorem C10_partial : C10_grouping_full ∧ C10_cache_full ∧ C10_whitespace_gap :=
  ⟨C10_grouping, C10_cache, C10_whitespace_gap_holds⟩
#assert_axioms C10_partial

end Rfsm.Expr
