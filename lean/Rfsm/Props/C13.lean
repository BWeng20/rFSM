import Rfsm.Audit
import Rfsm.Proofs.QueueLemmas
/-!
# C13 — Concurrent external events are each processed exactly once, in sender order

Model: `Rfsm.Queue` — N producer threads with fixed event lists, the session's external queue
(`BlockingQueue`, an `mpsc` channel) as one linearizable FIFO, the session thread as the single
consumer: `recv` (with the dequeue filter of `mainEventLoop`) and then the macrostep's effects one
at a time.  The interpreter's macrostep is the parameter `step`; the theorems hold for every
`step` and every filter `accept`.  A schedule is an explicit `List Choice`, so "for all
interleavings" is a universal quantifier; a schedule that picks a thread which is not enabled
(finished producer, consumer blocked) is not a run (`run = none`).

Trusted, not proved: `std::sync::mpsc` is a linearizable FIFO (each `send` takes effect
atomically at some point between call and return, `recv` returns the oldest element); the OS
scheduler.  The correspondence harness only SAMPLES real schedules.
-/
namespace Rfsm.Queue

/-- The property at full strength, for every number of producers, every list of events per
producer, every macrostep function, every filter and every schedule that runs to completion:
* `out`, the sequence of dequeued events, is an interleaving of the producers' lists — it is a
  permutation of everything that was sent (each event exactly once) and the positions can be
  attributed to the producers so that each producer's positions spell its list (sender order);
* every dequeued event is processed or dropped exactly as the consumer alone would do when fed
  `out` sequentially (the filter verdicts and the session state agree with the sequential run);
* the observable trace is the concatenation, in dequeue order, of the per-event macrostep
  segments: no effect of one event's macrostep is emitted after the next event was dequeued.

(The second and third conjunct of the formula, `Perm` and `∃ owner`, both part of the first bullet, follow from
the first conjunct: `IsMergeOf.perm`, `.owners`.) -/
def C13_full : Prop :=
  ∀ (σ ε ο : Type) (M : Sys σ ε ο) (ps : List (List ε)) (s0 : σ) (sched : List Choice)
    (st : St σ ε ο),
    run M (init ps s0) sched = some st → complete st →
      IsMergeOf ps (st.deq.map Prod.fst) ∧
      (st.deq.map Prod.fst).Perm ps.flatten ∧
      (∃ owner : List Nat, owner.length = (st.deq.map Prod.fst).length ∧
        (∀ o ∈ owner, o < ps.length) ∧
        ∀ i, i < ps.length → restrict (st.deq.map Prod.fst) owner i = ps[i]?.getD []) ∧
      st.deq.map Prod.snd = verdicts M s0 (st.deq.map Prod.fst) ∧
      st.sess = seqState M s0 (st.deq.map Prod.fst) ∧
      st.trace = (segments M s0 (st.deq.map Prod.fst)).flatten

/-- Invariants of every reachable state (not only completed runs): bookkeeping of the producers,
"dequeued ++ in flight" is an interleaving of what has been sent so far (so the channel holds
exactly sent − dequeued, in an order compatible with every sender), the consumer agrees with the
sequential consumer, and emitted ++ pending effects are the segments in dequeue order. -/
theorem C13_reachable {σ ε ο : Type} (M : Sys σ ε ο) (ps : List (List ε)) (s0 : σ)
    (sched : List Choice) (st : St σ ε ο) (h : run M (init ps s0) sched = some st) :
    Inv M ps s0 st :=
  inv_run (inv_init M ps s0) h
#assert_axioms C13_reachable

theorem C13 : C13_full := by
  intro σ ε ο M ps s0 sched st hrun hc
  have inv := C13_reachable M ps s0 sched st hrun
  obtain ⟨hdone, hfifo, hpend⟩ := hc
  have hsent : st.sent = ps := sent_eq_of_done inv hdone
  have hm : IsMergeOf ps (st.deq.map Prod.fst) := by
    have := inv.merge
    rw [hfifo, List.append_nil, hsent] at this
    exact this
  refine ⟨hm, hm.perm, hm.owners, inv.verd, inv.sess, ?_⟩
  have := inv.trace
  rw [hpend, List.append_nil] at this
  exact this
#assert_axioms C13

/-- in flight = sent − dequeued, as multisets: nothing is lost or duplicated on the way, in any
reachable state -/
theorem C13_in_flight {σ ε ο : Type} (M : Sys σ ε ο) (ps : List (List ε)) (s0 : σ)
    (sched : List Choice) (st : St σ ε ο) (h : run M (init ps s0) sched = some st) :
    (st.deq.map Prod.fst ++ st.fifo).Perm st.sent.flatten :=
  (C13_reachable M ps s0 sched st h).merge.perm
#assert_axioms C13_in_flight

/-- exactly once, as counts: every event is dequeued as often as it was sent -/
theorem C13_exactly_once {σ ε ο : Type} [DecidableEq ε] (M : Sys σ ε ο) (ps : List (List ε))
    (s0 : σ) (sched : List Choice) (st : St σ ε ο) (h : run M (init ps s0) sched = some st)
    (hc : complete st) (e : ε) :
    (st.deq.map Prod.fst).count e = ps.flatten.count e :=
  ((C13 σ ε ο M ps s0 sched st h hc).2.1).count_eq e
#assert_axioms C13_exactly_once

/-- the consumer dequeues only between macrosteps: a `recv` step is possible only when the
previous macrostep has emitted all of its effects -/
theorem C13_recv_only_when_idle {σ ε ο : Type} (M : Sys σ ε ο) (s s' : St σ ε ο)
    (h : next M s .recv = some s') : s.pending = [] :=
  (next_recv_iff.1 h).1
#assert_axioms C13_recv_only_when_idle

/-- a producer's send never changes the consumer side (session state, pending effects, trace,
dequeued events): sends that happen during a macrostep cannot disturb it -/
theorem C13_send_frame {σ ε ο : Type} (M : Sys σ ε ο) (s s' : St σ ε ο) (i : Nat)
    (h : next M s (.send i) = some s') :
    s'.sess = s.sess ∧ s'.pending = s.pending ∧ s'.trace = s.trace ∧ s'.deq = s.deq := by
  obtain ⟨e, t, _, rfl⟩ := next_send_iff.1 h
  exact ⟨rfl, rfl, rfl, rfl⟩
#assert_axioms C13_send_frame

/-- if the filter accepts everything (no event carries a foreign invoke id), every sent event is
processed: there are as many verdicts as sent events and every verdict is `true` -/
theorem C13_all_processed {σ ε ο : Type} (M : Sys σ ε ο) (hacc : ∀ s e, M.accept s e = true)
    (ps : List (List ε)) (s0 : σ) (sched : List Choice) (st : St σ ε ο)
    (h : run M (init ps s0) sched = some st) (hc : complete st) :
    (∀ b ∈ st.deq.map Prod.snd, b = true) ∧ (st.deq.map Prod.snd).length = ps.flatten.length := by
  obtain ⟨_, hperm, _, hv, _, _⟩ := C13 σ ε ο M ps s0 sched st h hc
  constructor
  · rw [hv]
    exact verdicts_all_true M hacc _ _
  · have := hperm.length_eq
    simpa using this
#assert_axioms C13_all_processed

/-- the checker used as the oracle on implementation traces is sound and complete -/
theorem C13_checker {α : Type} [DecidableEq α] (ps : List (List α)) (out : List α) :
    isMergeOfB ps out = true ↔ IsMergeOf ps out := by
  induction out generalizing ps with
  | nil =>
    simp only [isMergeOfB, List.all_eq_true, List.isEmpty_iff]
    constructor
    · intro h; exact .done h
    · intro h; cases h with | done h => exact h
  | cons e out ih =>
    simp only [isMergeOfB, List.any_eq_true, List.mem_range]
    constructor
    · rintro ⟨i, _, h⟩
      split at h
      · rename_i h' t heq
        simp only [Bool.and_eq_true, decide_eq_true_eq] at h
        obtain ⟨rfl, hm⟩ := h
        exact .take i _ t heq ((ih _).1 hm)
      · simp at h
    · intro h
      cases h with
      | take i e t hget hrest =>
        refine ⟨i, ?_, ?_⟩
        · exact (List.getElem?_eq_some_iff.1 hget).1
        · simp [hget, (ih _).2 hrest]
#assert_axioms C13_checker

/-- the inductive definition says exactly what the property text says: an owner assignment whose
restrictions are the producers' lists -/
theorem C13_merge_iff_owners {α : Type} (ps : List (List α)) (out : List α) :
    IsMergeOf ps out ↔
      ∃ owner : List Nat, owner.length = out.length ∧ (∀ o ∈ owner, o < ps.length) ∧
        ∀ i, i < ps.length → restrict out owner i = ps[i]?.getD [] :=
  ⟨fun h => h.owners, fun ⟨owner, h1, h2, h3⟩ => isMergeOf_of_owners owner h1 h2 h3⟩
#assert_axioms C13_merge_iff_owners

/-- the model has no deadlock: while something is left to do some thread is enabled -/
theorem C13_progress {σ ε ο : Type} (M : Sys σ ε ο) (s : St σ ε ο) (h : ¬ complete s) :
    ∃ c, (next M s c).isSome = true :=
  progress M s h
#assert_axioms C13_progress

/-- model completeness: EVERY interleaving of the producers' lists is the dequeue order of some
schedule that runs to completion — the universal quantifier over schedules in `C13` ranges over
all interleavings, the transition system does not exclude any -/
theorem C13_every_merge_is_a_run {σ ε ο : Type} (M : Sys σ ε ο) (ps : List (List ε)) (s0 : σ)
    (out : List ε) (h : IsMergeOf ps out) :
    ∃ sched st, run M (init ps s0) sched = some st ∧ complete st ∧ st.deq.map Prod.fst = out := by
  obtain ⟨sched, st, h1, h2, h3⟩ := every_merge_is_a_run M ps out h (init ps s0) rfl rfl rfl
  exact ⟨sched, st, h1, h2, by simpa [init] using h3⟩
#assert_axioms C13_every_merge_is_a_run

/-- the filter of `mainEventLoop`, spelled out: an event is dropped exactly when it is not a
`done.invoke.` event, carries an invoke id, that id is not the session's own caller id and is
not the id of a running child -/
theorem C13_filter (caller : Str) (children : List Str) (e : Ev) :
    acceptRust caller children e = false ↔
      doneInvokePrefix.isPrefixOf e.name = false ∧
        ∃ i, e.invokeId = some i ∧ caller ≠ i ∧ i ∉ children := by
  unfold acceptRust
  cases hp : doneInvokePrefix.isPrefixOf e.name <;> cases hi : e.invokeId <;> simp
#assert_axioms C13_filter

/-! ## Non-vacuity: concrete runs of the harness document's model (two producers) -/

private def ev (n : Nat) : Ev := { name := [n], invokeId := none }
private def s0 : Sess := { caller := [], children := [], count := 0 }

-- producer 0 sends a,b ; producer 1 sends c ; the second send overtakes, sends happen while a
-- macrostep is in progress
example :
    (run docSys (init [[ev 97, ev 98], [ev 99]] s0)
        [.send 0, .recv, .send 1, .tick, .send 0, .tick, .recv, .tick, .tick, .recv, .tick, .tick]).map
      (fun st => (completeB st, st.trace)) =
    some (true, [.ext [97], .mark [97] 0, .ext [99], .mark [99] 1, .ext [98], .mark [98] 2]) := by
  decide
-- a schedule that lets the consumer run while it is blocked is not a run
example : (run docSys (init [[ev 97]] s0) [.recv]).isNone = true := by decide
-- a second dequeue inside a macrostep is not possible
example : (run docSys (init [[ev 97, ev 98]] s0) [.send 0, .send 0, .recv, .recv]).isNone = true := by
  decide
example : isMergeOfB [[1, 2, 3], [10, 20]] [1, 10, 2, 20, 3] = true := by decide
example : isMergeOfB [[1, 2, 3], [10, 20]] [1, 10, 3, 20, 2] = false := by decide  -- reordered
example : isMergeOfB [[1, 2, 3], [10, 20]] [1, 10, 2, 20] = false := by decide     -- lost
example : isMergeOfB [[1, 2, 3], [10, 20]] [1, 10, 2, 2, 20, 3] = false := by decide -- duplicated
-- the filter: foreign invoke id dropped, own caller id / running child / done.invoke. accepted
example : acceptRust [] [] { name := [97], invokeId := some [120] } = false := by decide
example : acceptRust [] [] { name := [97], invokeId := some [] } = true := by decide
example : acceptRust [] [[120]] { name := [97], invokeId := some [120] } = true := by decide
example : acceptRust [99] [] { name := [97], invokeId := some [99] } = true := by decide
example : acceptRust [] [] { name := doneInvokePrefix ++ [120], invokeId := some [120] } = true := by
  decide

end Rfsm.Queue
