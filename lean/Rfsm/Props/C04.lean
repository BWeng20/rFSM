import Rfsm.Audit
import Rfsm.Model.ReaderSpec
import Rfsm.Proofs.ReaderTop
import Rfsm.Proofs.ReaderStatesSim
import Rfsm.Proofs.ReaderKids
/-!
# C04 — The XML reader builds a model that mirrors the SCXML document

Model: `Rfsm.Reader` (`Model/Reader.lean`: the reader's state machine over SAX events;
`Model/ReaderDoc.lean`: document trees, `sax`, `normalise`, `decompile`; `Model/ReaderSpec.lean`:
`saxSrc`, `wfDoc`, lexical respellings).  Descriptor laws ((a) of the design: `e`, `e.`, `e.*`) are
`C19_trailing_dot`, `C19_trailing_dot_star`, `C19_norm_idem`, `C19_equivalent_spellings` in
`Props/C19.lean`; `normalise` uses the same `Rfsm.Descriptor.norm`.
-/
namespace Rfsm.Reader
open Rfsm.Descriptor (Str)

/-- read a SAX list and rebuild the document from the tables -/
def readDoc (es : List Sax) : Option Doc :=
  match read es with
  | .ok f => decompile f
  | .error _ => none

/-- The property at full strength, for the canonical source text of every well-formed document and
its respellings: (1) the tables decompile to the normal form of the document, (2) a namespace prefix
on every element and (3) writing empty elements as start/end pairs do not change the result.
(White space, comments, quoting, attribute escapes, XInclude are below the SAX level: quick-xml, tied
by the metamorphic part of the correspondence check only.) -/
def C04_full : Prop :=
  ∀ d : Doc, wfDoc d = true →
    readDoc (saxSrc d) = some (normalise d) ∧
    (∀ p : Str, noWs p = true → p.all (· ≠ 58) → readDoc (addPrefix p (saxSrc d)) = readDoc (saxSrc d)) ∧
    readDoc (pairForm (saxSrc d)) = readDoc (saxSrc d)

/-! ## (b) the region stack: if / elseif / else / foreach with arbitrarily nested bodies -/

/-- **Region-stack theorem.**  From every reader state that is inside an executable-content region
(`Ready σ es`: current region holds `es`; not directly under `<finalize>`) the SAX events of any block `b`
whose leaves are read as single entries (`OkB`) run without panic, change nothing but the region table and the id / source
counters (`σ.upd`), restore the element stack and the region stack, append entries `new` to the
current region, leave every other existing region alone and allocate exactly the ids
`[σ.nextId, n')`; the appended entries decompile to the normal form of `b` (elseif chains as nested
ifs) in every table that agrees on the new ids, with any fuel ≥ the number of new regions. -/
theorem C04_region_stack (b : Block) (σ : RS) (es : List Exec) (hR : Ready σ es) (hok : OkB b) :
    ∃ g' n' s' new, run (saxB b) σ = .ok (σ.upd g' n' s') ∧ Post σ es new g' n' ∧
      ∀ gg fuel, Agree gg g' σ.nextId n' → n' - σ.nextId ≤ fuel →
        mapO (dEntry (dBlock fuel gg)) new = some (normB b) :=
  content_block b σ es hR hok
#assert_axioms C04_region_stack

/-- **(b) from the start of a document.**  For every block `b` of supported content (arbitrarily nested
if / elseif* / else? / foreach, raise, assign, log with expr, script, cancel; child text without
`&` / `<`, see `C04_child_text_roundtrip` for escaped text), reading
`<scxml><state id="s"><onentry>` followed by the SAX events of `b` succeeds and region 1 (the
`<onentry>` block) decompiles — with the fuel `decompile` uses — to the normal form of `b`. -/
theorem C04_content (b : Block) (h : supported.supportedB b = true) :
    ∃ σ', run (preOnentry ++ saxB b) {} = .ok σ' ∧
      dBlock (regionFuel σ'.fsm) σ'.fsm.regions 1 = some (normB b) := by
  obtain ⟨σ', hrun, hd⟩ := content_decompile b σ0 σ0_ready (okB_of_supported b h)
  exact ⟨σ', (run_append_ok σ0_run _).trans hrun, by rwa [σ0_facts.2.2.1] at hd⟩
#assert_axioms C04_content

/-! ## (c) state nesting and document order, independent of forward references -/

/-- **Declaration theorem.**  `get_or_create_state_with_attributes` on the view of the state table:
the declared state gets the doc id of the declaration and the declaring state as parent — whether
its name had been referenced before (forward reference: the entry exists already, with a smaller
id) or not — and no other state loses its name, id, parent or doc id. -/
theorem C04_declaration (vs : List V) (h : IdsOk vs) (n : Str) (p d : Nat) (hp : p ≠ 0) :
    Ext [n] vs (vdecl vs n p d).2 ∧
    ∃ v, vfind (vdecl vs n p d).2 n = some (vdecl vs n p d).1 ∧
      vget (vdecl vs n p d).2 (vdecl vs n p d).1 = some v ∧ v.name = n ∧ v.parent = p ∧ v.docId = d := by
  obtain ⟨h1, _, h3⟩ := vdecl_spec h n p d hp
  exact ⟨h1, h3⟩
#assert_axioms C04_declaration

/-- **State nesting and document order.**  For every forest of states with pairwise distinct ids,
whatever their transitions refer to (states declared later, earlier, or never), reading
`<scxml>` followed by the forest succeeds, and in the resulting table every state of the forest
(`GoodF`) has as `parent` the state it is nested in (the `<scxml>` pseudo root, id 1, for the
top-level ones) and as `doc_id` the number of its position in the document (`<scxml>` = 1, then
one id per `<state>` and per `<transition>` in SAX order), so document order is pre-order and does
not depend on the order in which state ids were allocated. -/
theorem C04_state_nesting (ts : List ST) (hnd : (namesF ts).Nodup) :
    ∃ σ', run ([.start t_scxml []] ++ saxSF ts) {} = .ok σ' ∧ GoodF (view σ'.fsm) ts 1 2 ∧
      σ'.nextDoc = 2 + sizeF ts := by
  obtain ⟨_, _, _, _, hdoc, _⟩ := σscxml_facts
  obtain ⟨σ', hs, _, _, _, _, hv, hd⟩ := simF ts σscxml 1 σscxml_SR
  obtain ⟨_, hg⟩ := amF_spec ts 1 (view σscxml.fsm) σscxml.nextDoc σscxml_SR.ok (by decide)
  refine ⟨σ', (run_append_ok σscxml_run _).trans hs, ?_, by rw [hd, hdoc]⟩
  rw [hv, hdoc] at *
  exact hg hnd
#assert_axioms C04_state_nesting

/-- **Children lists.**  Same setting (any forest of states with distinct ids, none of them the
generated name `__id1` of the `<scxml>` element, arbitrary references): in the table the reader
builds, the `states` list of the `<scxml>` pseudo root is the list of the ids of the top-level
states and (`KidsF`) the `states` list of every state of the forest is the list of the ids of its
child states, in document order — although ids are allocated in order of first reference. -/
theorem C04_state_children (ts : List ST) (hnd : (namesF ts).Nodup)
    (hroot : [95, 95, 105, 100, 49] ∉ namesF ts) :
    ∃ σ' root, run ([.start t_scxml []] ++ saxSF ts) {} = .ok σ' ∧ vget (view σ'.fsm) 1 = some root ∧
      root.kids = ts.map (fun t => idOf (view σ'.fsm) t.name) ∧ KidsF (view σ'.fsm) [1] ts := by
  obtain ⟨_, _, _, _, hdoc, hview⟩ := σscxml_facts
  obtain ⟨σ', hs, _, _, _, _, hv, _⟩ := simF ts σscxml 1 σscxml_SR
  have hget1 : vget (view σscxml.fsm) 1 = some ⟨1, [95, 95, 105, 100, 49], 0, 1, []⟩ := by rw [hview]; rfl
  have hinv : KInv (view σscxml.fsm) := hview ▸ KInv.single _ 0 1 (by decide)
  have hund : ∀ n ∈ namesF ts, Undecl (view σscxml.fsm) n :=
    fun n hn => hview ▸ undecl_single 0 1 (fun e => hroot (e ▸ hn))
  have hP := amF_kids ts 1 (view σscxml.fsm) σscxml.nextDoc [1] _ hinv (by rw [hdoc]; decide) hget1 (by decide)
    (by simp) (by intro q hq; simp at hq; subst hq; exact ⟨_, hget1, by decide⟩) hnd hund
  obtain ⟨root, hr, hk, _⟩ := hP.par
  rw [← hv] at hr hk
  refine ⟨σ', root, (run_append_ok σscxml_run _).trans hs, hr, by simpa using hk, ?_⟩
  rw [hv]; exact hP.good
#assert_axioms C04_state_children

/-- non-vacuity: a forest with a forward reference (`a` targets `c`, declared later inside `b`) and a
backward one satisfies the hypothesis; the state ids are allocated in reference order (a=2, c=3,
b=4) while the doc ids follow the document (a=2, b=4, c=5) — kernel evaluation of the model -/
example : (namesF [.node [97] (some [99]) [], .node [98] none [.node [99] (some [97]) []]]).Nodup := by decide
example : (match read ([.start t_scxml []] ++
      saxSF [.node [97] (some [99]) [], .node [98] none [.node [99] (some [97]) []]] ++
      [.stop t_scxml]) with
    | .ok f => f.states.map fun s => s.name ++ [0, s.id, s.parent, s.docId] ++ s.states
    | .error _ => []) =
    [[95, 95, 105, 100, 49, 0, 1, 0, 1, 2, 4], [97, 0, 2, 1, 2], [99, 0, 3, 4, 5], [98, 0, 4, 1, 4, 3]] := by
  decide +kernel

/-! ## child text, namespace prefix, start/end-pair form -/

/-- **Child text round trip.**  `read_content` resolves the character data of the source span
(`resolve_character_data`): for EVERY text `t`, the span `xmlEscape t` (how `saxSrc` writes child
text of `<script> <data> <content> <assign>`: `&` as `&amp;`, `<` as `&lt;`) is read back as `t`. -/
theorem C04_child_text_roundtrip (t : Str) : resolveCharData (xmlEscape t) = some t :=
  resolve_escape t
#assert_axioms C04_child_text_roundtrip

/-- text without references and markup is taken as it is -/
theorem C04_child_text_plain (t : Str) (h : plainText t = true) : resolveCharData t = some t :=
  resolve_plain t h
#assert_axioms C04_child_text_plain

/-- **Namespace prefix on a raw-text element.**  For every prefix `p` (without `:`), every script
text without `&`/`<` and every reader state inside a content region (`Ready`): `<p:script>t</p:script>` is
read exactly like `<script>t</script>` (`read_content` looks for the end tag with the qualified
name of the start tag). -/
theorem C04_ns_prefix_script (p t : Str) (hp : p.all (· != 58) = true) (hpl : plainText t = true)
    (σ : RS) (es : List Exec) (hR : Ready σ es) :
    run (addPrefix p (saxC (.script t))) σ = run (saxC (.script t)) σ := by
  -- `hpl` is not needed: `prefix_raw` holds for any text (and of `hR` only `raw = none` is used)
  clear hpl
  exact prefix_raw p t_script [] _ hp (by decide) (by decide) σ hR.raw
#assert_axioms C04_ns_prefix_script

/-- **Start/end-tag form of a childless `<assign>`.**  From every reader state inside a content
region (`Ready`) `<assign location="l" expr="e"></assign>` is read exactly like `<assign location="l" expr="e"/>`
(with or without `expr`). -/
theorem C04_pair_form_assign (l : Str) (e : Option Str) (σ : RS) (es : List Exec) (hR : Ready σ es) :
    run (pairForm (saxC (.assign l e none))) σ = run (saxC (.assign l e none)) σ :=
  pair_assign l e σ es hR
#assert_axioms C04_pair_form_assign

/-- `<scxml><state id="a"><onentry> c </onentry></state></scxml>` -/
def docOnentry (c : Block) : Doc :=
  { root := .mk .state none .none [] [] [] [] [] []
      [.mk .state (some [97]) .none [] [c] [] [] [] [] [] none] none }

/-- the first `<onentry>` block of the first child state -/
def firstOnentry (d : Doc) : Option Block :=
  match d.root with
  | .mk _ _ _ _ _ _ _ _ _ (.mk _ _ _ _ (b :: _) _ _ _ _ _ _ :: _) _ => some b
  | _ => none

def blockTexts : Block → List Str
  | .script t :: r => t :: blockTexts r
  | .assign _ (some e) _ :: r => e :: blockTexts r
  | _ :: r => [] :: blockTexts r
  | [] => []

/-- regression (former finding `C04:raw-child-text`, DESIGN §5 P17): `<script>x&lt;1</script>` is
read as the script `x<1`, the same as the normal form of the document -/
theorem C04_regression_raw_child_text :
    ((readDoc (saxSrc (docOnentry [.script [120, 60, 49]]))).bind firstOnentry).map blockTexts = some [[120, 60, 49]] ∧
    ((some (normalise (docOnentry [.script [120, 60, 49]]))).bind firstOnentry).map blockTexts = some [[120, 60, 49]] := by
  decide +kernel
#assert_axioms C04_regression_raw_child_text

/-- regression (former finding `C04:ns-prefix:raw-text-element`): `<sc:script>x</sc:script>` (every
element prefixed) is read, with the same block as the unprefixed document -/
theorem C04_regression_ns_prefix :
    ((readDoc (addPrefix [115, 99] (saxSrc (docOnentry [.script [120]])))).bind firstOnentry).map blockTexts = some [[120]] ∧
    ((readDoc (saxSrc (docOnentry [.script [120]]))).bind firstOnentry).map blockTexts = some [[120]] := by
  decide +kernel
#assert_axioms C04_regression_ns_prefix

/-- regression (former finding `C04:empty-pair-form`): `<assign location="x" expr="1"></assign>` is
read like `<assign location="x" expr="1"/>` -/
theorem C04_regression_empty_pair_form :
    ((readDoc (pairForm (saxSrc (docOnentry [.assign [120] (some [49]) none])))).bind firstOnentry).map blockTexts =
      some [[49]] ∧
    ((readDoc (saxSrc (docOnentry [.assign [120] (some [49]) none]))).bind firstOnentry).map blockTexts = some [[49]] := by
  decide +kernel
#assert_axioms C04_regression_empty_pair_form

/-! ## `C04_full` is false; its first conjunct is not proved for any class of whole documents -/

/-- `<log label="l"/>` (no `expr`) is dropped by the reader (finding `C04:dropped:log-without-expr`;
its repair needs `Log::execute` in src/executable_content.rs to accept a missing expression) -/
theorem C04_counterexample_log_without_expr : ¬ C04_full := by
  intro h
  have hw : wfDoc (docOnentry [.log [108] none, .log [] (some [49])]) = true := by decide +kernel
  have h1 := (h _ hw).1
  have h2 : ((readDoc (saxSrc (docOnentry [.log [108] none, .log [] (some [49])]))).bind firstOnentry).map List.length =
      some 1 := by decide +kernel
  have h3 : ((some (normalise (docOnentry [.log [108] none, .log [] (some [49])]))).bind firstOnentry).map List.length =
      some 2 := by decide +kernel
  rw [h1, h3] at h2
  exact absurd h2 (by decide)
#assert_axioms C04_counterexample_log_without_expr

/-- non-vacuity: a document with nested content satisfies `wfDoc` (kernel evaluation) -/
example : wfDoc (docOnentry
    [.ite [99] [.raise [101]] (.elif [100] [.log [] (some [49])] (.els [.script [120]]))]) = true := by
  decide +kernel

end Rfsm.Reader
