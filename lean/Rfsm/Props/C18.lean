import Rfsm.Audit
import Rfsm.Proofs.CodecFsm
import Rfsm.Proofs.CodecSink
/-!
# C18 — Partial or failed `.rfsm` I/O is reported, never silently accepted

Model: `Rfsm.Codec` — reader side `readImage` (`FsmReader::read` over `DefaultProtocolReader` with its
sticky error flag and defaults after an error; a Rust panic is an explicit outcome), writer side
`runOps` / `writeFsmTo` (`FsmWriter::write` + `close` over `DefaultProtocolWriter` against an arbitrary
sink, lean/Rfsm/Model/Sink.lean).

Three clauses:
* read: every strict prefix of a written image is answered with an error (not `Ok`, not a panic);
* short write: a sink that takes only part of a write (but at least one byte, and never fails) still
  receives the complete image;
* failing write: if some call of the sink fails, `has_error()` is true afterwards.

State after the repairs P7/P8 (`FsmReader::read` consults `has_error()` before it converts the
binding ordinal and before it returns `Ok`; `write_str` uses `write_all`): the second and third clause
are proved in full (`C18_short`, `C18_write_fail`).  Of the first, "never `Ok`" and "the error flag is
set" are proved for every model and every cut (`C18_read_never_ok`, `C18_read_partial`); that the one
panic site left in the reader (`read_executable_content`, "Unknown Executable Content") is not reached on
a prefix is proved for the cuts inside the version string (the first 8 bytes, `C18_read_version_cut`) and
checked on concrete images only — see `C18_read_partial`.
-/
namespace Rfsm.Codec

def ReadResult.isErr : ReadResult → Bool
  | .errCantRead => true
  | .errVersion _ => true
  | _ => false

def ReadResult.isPanic : ReadResult → Bool
  | .panic _ => true
  | _ => false

def ReadResult.isOk : ReadResult → Bool
  | .ok _ => true
  | _ => false

/-- the sink reported a failure at some point of the run -/
def sawFailure (w : WState) : Bool := w.sawErr
/-- `has_error()` of the writer after the run (the reader's flag is `RState.ok`, asked by `pHasError`) -/
def hasError (w : WState) : Bool := !w.ok

def C18_read_full : Prop :=
  ∀ f : Fsm, wfFsm typeLim f = true → ∀ k, k < (imageOf f).length →
    (readImage ((imageOf f).take k)).isErr = true

def C18_short_full : Prop :=
  ∀ (f : Fsm) (k : Sink), wfFsm typeLim f = true → AcceptsUpTo k 1 →
    (writeFsmTo k f).out = imageOf f

def C18_fail_full : Prop :=
  ∀ (ops : List Op) (k : Sink), sawFailure (runOps k ops WState.init) = true →
    hasError (runOps k ops WState.init) = true

def C18_full : Prop := C18_read_full ∧ C18_short_full ∧ C18_fail_full

/-! ## failing writes: holds in full -/

/-- Whatever the serializer writes and whatever the sink does: once a `write` or `flush` call has
failed (or `write_all` saw `Ok(0)`), `has_error()` is true — at the end and at every point in between
(the invariant `WInv` is preserved by every call). -/
theorem C18_write_fail : C18_fail_full := by
  intro ops k h
  have := runOps_inv k ops WState.init (by intro h; simp [WState.init] at h)
  simp only [sawFailure] at h
  simp [hasError, this h]
#assert_axioms C18_write_fail

/-- the same for a whole model, including the final `close()` -/
theorem C18_write_fail_fsm (f : Fsm) (k : Sink) (h : sawFailure (writeFsmTo k f) = true) :
    hasError (writeFsmTo k f) = true :=
  C18_write_fail (opsFsm f ++ [Op.flush]) k h
#assert_axioms C18_write_fail_fsm

/-! ## reading a truncated image -/

/-- `FsmReader::read` returns `Ok` only with the error flag unset (it consults `has_error()` last) -/
theorem readFsmProg_ok_unflagged (st : RState) :
    (readFsmProg.run st).1.isOk = true → (readFsmProg.run st).2.ok = true := by
  simp only [readFsmProg, run_bind, pHasError]
  split
  · simp only [run_bind, run_prim, Prim.run]
    split
    · simp [ReadResult.isOk]
    · simp only [run_bind, run_prim, Prim.run]
      generalize (readFsmRest _ _ _).run _ = R
      by_cases hk : R.2.ok = true <;> simp [hk, ReadResult.isOk]
  · simp only [run_bind, run_prim, Prim.run]
    generalize (pStr.run st).snd = X
    by_cases hk : X.ok = true <;> simp [hk, ReadResult.isOk]
#assert_axioms readFsmProg_ok_unflagged

/-- After reading any strict prefix of the image of any model, the protocol reader's sticky error flag
is set.  (Proof: the reader decodes the full image exactly — C05 — and no reader program that ends
without error can have seen the end of its input — `Prog.mono`.) -/
theorem C18_read_flag (f : Fsm) (h : wfFsm typeLim f = true) (k : Nat) (hk : k < (imageOf f).length) :
    (readImageFull ((imageOf f).take k)).2 = true := by
  have := prefix_has_error h k hk
  simp only [readImageFull]
  cases hp : (readFsmProg.run (RState.init ((imageOf f).take k))).2.panic <;> simp [this]
#assert_axioms C18_read_flag

/-- **No strict prefix of any image is accepted**: `FsmReader::read` never answers `Ok` (the finding
`C18-P7-prefix-ok` — `Ok` with a model made of defaults — is gone for every model and every cut). -/
theorem C18_read_never_ok (f : Fsm) (h : wfFsm typeLim f = true) (k : Nat) (hk : k < (imageOf f).length) :
    (readImage ((imageOf f).take k)).isOk = false := by
  cases hr : (readImage ((imageOf f).take k)).isOk with
  | false => rfl
  | true =>
    simp only [readImage, readImageFull] at hr
    split at hr
    · simp [ReadResult.isOk] at hr
    · exact absurd (readFsmProg_ok_unflagged _ hr) (by simp [prefix_has_error h k hk])
#assert_axioms C18_read_never_ok

/-- **What holds of the read clause.** For every model and every cut the answer is an error, or else a
panic — never `Ok`.  Missing for `C18_read_full`: that the panic cannot happen.  The reader's only
panic site left is `read_executable_content` on an unknown content type byte (the model's nesting
fuel is the other `Site`); on a prefix the type bytes read before the cut are those of the full image
(0…8) and after the cut `read_u8` answers 0 (`If`), so it is not reached — but this needs an induction
over all reader programs that is not done here.  It is proved for the cuts inside the version string
(`C18_read_version_cut`), by evaluation for every cut of concrete images (`C18_read_examples`), and the
harness checks every prefix it generates (no panic is tolerated there). -/
theorem C18_read_partial (f : Fsm) (h : wfFsm typeLim f = true) (k : Nat) (hk : k < (imageOf f).length) :
    (readImage ((imageOf f).take k)).isErr = true ∨ (readImage ((imageOf f).take k)).isPanic = true := by
  have := C18_read_never_ok f h k hk
  cases hr : readImage ((imageOf f).take k) with
  | ok g => rw [hr] at this; simp [ReadResult.isOk] at this
  | errCantRead => exact Or.inl rfl
  | errVersion v => exact Or.inl rfl
  | panic s => exact Or.inr rfl
#assert_axioms C18_read_partial

/-- the complete image, by contrast, is read without the flag -/
theorem C18_read_complete (f : Fsm) (h : wfFsm typeLim f = true) :
    readImageFull (imageOf f) = (ReadResult.ok f, false) := readImageFull_image h
#assert_axioms C18_read_complete

/-- a cut inside the version string (the first 8 bytes) is reported as an error, for every model -/
theorem C18_read_version_cut (f : Fsm) (k : Nat) (hk : k < 8) :
    (readImage ((imageOf f).take k)).isErr = true := by
  -- `(Op.str versionText).bytes`: 0xC7 = 0xC0 + 7 bytes, then "fsmW1.1"
  have ht : (imageOf f).take k = ([0xC7, 102, 115, 109, 87, 49, 46, 49] : List Nat).take k := by
    rw [image_split]
    exact List.take_append_of_le_length (Nat.le_of_lt hk)
  rw [ht]
  have : k = 0 ∨ k = 1 ∨ k = 2 ∨ k = 3 ∨ k = 4 ∨ k = 5 ∨ k = 6 ∨ k = 7 := by omega
  rcases this with rfl | rfl | rfl | rfl | rfl | rfl | rfl | rfl <;> decide
#assert_axioms C18_read_version_cut

/-- the smallest model: no states, no transitions, no content -/
def emptyFsm : Fsm :=
  { name := [], datamodel := [], binding := .early, pseudoRoot := 0, script := 0, states := [],
    transitions := [], content := [] }

example : wfFsm typeLim emptyFsm = true := by decide
example : imageOf emptyFsm = [199, 102, 115, 109, 87, 49, 46, 49, 192, 192, 49, 48, 48, 48, 48, 48] := by decide

/-- a model with one state, one transition and one block of content -/
def tinyFsm : Fsm :=
  { name := [77], datamodel := [], binding := .late, pseudoRoot := 1, script := 0,
    states := [{ id := 1, docId := 1, name := [114], historyType := .none, isParallel := false,
                 isFinal := false, initial := 0, states := [], onentry := [1], onexit := [],
                 transitions := [8], invoke := [], history := [], data := [], parent := 0, donedata := none }],
    transitions := [{ id := 8, docId := 6, source := 1, target := [1], events := [[101]],
                      ttype := .internal, wildcard := false, cond := .null, content := 1 }],
    content := [(1, [.raise [101], .log [] (.string [104, 105]), .script [1]])] }

example : wfFsm typeLim tinyFsm = true := by decide +kernel

/-- regression of `C18-P7-prefix-panic` / `C18-P7-prefix-ok`: every cut of the 16-byte image of the
empty model (8 and 10 used to panic in `BindingType::from_ordinal(0)`, 11 and 15 used to be `Ok`) and
every cut of the image of `tinyFsm` is answered with an error -/
theorem C18_read_examples :
    (∀ k, k < (imageOf emptyFsm).length → (readImage ((imageOf emptyFsm).take k)).isErr = true) ∧
    (∀ k, k < (imageOf tinyFsm).length → (readImage ((imageOf tinyFsm).take k)).isErr = true) := by
  constructor
  · intro k hk
    have : ((List.range (imageOf emptyFsm).length).all
        fun k => (readImage ((imageOf emptyFsm).take k)).isErr) = true := by decide +kernel
    exact List.all_eq_true.mp this k (List.mem_range.mpr hk)
  · intro k hk
    have : ((List.range (imageOf tinyFsm).length).all
        fun k => (readImage ((imageOf tinyFsm).take k)).isErr) = true := by decide +kernel
    exact List.all_eq_true.mp this k (List.mem_range.mpr hk)
#assert_axioms C18_read_examples

/-! ## short writes: holds in full -/

/-- Against a sink that never fails and takes at least one byte per call, every call sequence delivers
exactly its bytes and records no error (`write_str` hands the payload to `write_all`, which repeats
`write` until everything is taken). -/
theorem C18_short_ops (ops : List Op) (k : Sink) (hk : AcceptsUpTo k 1) :
    (runOps k ops WState.init).out = bytesOf ops ∧ (runOps k ops WState.init).ok = true ∧
    (runOps k ops WState.init).sawErr = false := by
  obtain ⟨o, a, c⟩ := runOps_ok k hk ops WState.init rfl
  exact ⟨by simpa [WState.init] using o, a, c⟩
#assert_axioms C18_short_ops

theorem C18_short : C18_short_full := by
  intro f k _ hk
  have := (C18_short_ops (opsFsm f ++ [Op.flush]) k hk).1
  simpa [writeFsmTo, imageOf, Op.bytes] using this
#assert_axioms C18_short

/-- against the sink of a `Vec<u8>` the bytes are `bytesOf`: the pure image is what the real writer
produces when nothing goes wrong -/
theorem C18_ideal_sink (ops : List Op) :
    (runOps idealSink ops WState.init).ok = true ∧ (runOps idealSink ops WState.init).out = bytesOf ops := by
  obtain ⟨o, a, _⟩ := C18_short_ops ops idealSink (idealSink_accepts 1)
  exact ⟨a, o⟩
#assert_axioms C18_ideal_sink

def oneByteSink : Sink := ⟨fun _ _ => .acc 1, false⟩

def abFsm : Fsm := { emptyFsm with name := [97, 98] }

/-- regression of `C18-P8-short-write`: against `oneByteSink` the name "ab" of a model used to lose its
second byte with no error recorded -/
theorem C18_short_regression :
    AcceptsUpTo oneByteSink 1 ∧
    (writeFsmTo oneByteSink abFsm).out = imageOf abFsm ∧ hasError (writeFsmTo oneByteSink abFsm) = false := by
  have hacc : AcceptsUpTo oneByteSink 1 := ⟨rfl, fun _ len => ⟨1, rfl, by omega⟩⟩
  obtain ⟨o, a, _⟩ := C18_short_ops (opsFsm abFsm ++ [Op.flush]) oneByteSink hacc
  refine ⟨hacc, ?_, ?_⟩
  · simpa [writeFsmTo, imageOf, Op.bytes] using o
  · simp [hasError, writeFsmTo, a]
#assert_axioms C18_short_regression

theorem C18_write : C18_short_full ∧ C18_fail_full := ⟨C18_short, C18_write_fail⟩
#assert_axioms C18_write

end Rfsm.Codec
