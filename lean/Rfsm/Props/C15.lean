import Rfsm.Audit
import Rfsm.Proofs.RouteLemmas
/-!
# C15 — The SCXML event I/O processor routes each send to exactly the addressed queue

Model: `Rfsm.Route` — `routeSend` transcribes `ScxmlEventIOProcessor::send` case by case,
`sendToSession` the executor's session table lookup, `execSend`/`buildEvent`/`sendId` the part of
`SendParameters::execute` that follows the evaluation of the attribute expressions, `fetchAdd` /
`runCounter` the two global `AtomicU32` id sources, `showNat`/`parseU32` Rust's `u32` `Display`
and `parse`.  The two former panic sites (`todo!()` for an unknown session, `unwrap()` of a missing
parent) are repaired in /repo: such a send fails with `error.communication`
(`C15_unknown_session_error`, `C15_no_parent_error`), and `Outcome.panic`, kept for the driver
protocol, is never produced (`C15_no_panic`).

Trusted, not proved: `AtomicU32::fetch_add` is atomic (each call is linearized); the tie of the
model to the code is the correspondence run of harness family `c15`.
-/
namespace Rfsm.Route

/-- What a completed call of the processor did to the queues: EXACTLY ONE of
* the stamped event appended to the external queue of one registered session,
* the stamped event (as internal event) appended to the sender's internal queue,
* one error event appended to the sender's internal queue (and the call returned `false`). -/
inductive Did {δ : Type} (w : World δ) (S : Session δ) (ev : Event δ) : World δ → Bool → Prop
  | ext (sid : Nat) (T : Session δ) : lookup w sid = some T →
      Did w S ev (enqExt w sid (stamp S.sid ev)) true
  | int : Did w S ev (enqInt w S.sid { stamp S.sid ev with etype := .internal }) true
  | err (e : Event δ) :
      (e = errorCommunication (stamp S.sid ev) ∨ e = errorExecution ev.sendid ev.invokeId) →
      Did w S ev (enqInt w S.sid e) false

/-- "internal", "parent", "scxml_": invoke ids that `#_<invokeid>` cannot address because the
exact targets `#_internal`, `#_parent` and the prefix `#_scxml_` are tested first -/
def reservedInvokeId (inv : Str) : Bool :=
  inv == tInternal.drop 2 || inv == tParent.drop 2 || (pfxSession.drop 2).isPrefixOf inv

/-- (a) one enqueue, never two, never an event and an error -/
def C15a_full : Prop :=
  ∀ (δ : Type) (w w' : World δ) (S S' : Session δ) (target : Str) (ev : Event δ) (ok : Bool),
    (w.map (·.sid)).Nodup → lookup w S.sid = some S' →
    routeSend w S target ev = .done w' ok →
      Did w S ev w' ok ∧ queued w' = queued w + 1

/-- (a') every target form of the statement names the queue that receives the event -/
def C15_targets_full : Prop :=
  ∀ (δ : Type) (w : World δ) (S : Session δ) (ev : Event δ),
    routeSend w S tInternal ev =
      .done (enqInt w S.sid { stamp S.sid ev with etype := .internal }) true ∧
    routeSend w S [] ev = .done (enqExt w S.sid (stamp S.sid ev)) true ∧
    (∀ n T, n < 4294967296 → lookup w n = some T → T.receiverDropped = false →
      routeSend w S (location n) ev = .done (enqExt w n (stamp S.sid ev)) true) ∧
    (∀ p P, S.parent = some p → lookup w p = some P → P.receiverDropped = false →
      routeSend w S tParent ev = .done (enqExt w p (stamp S.sid ev)) true) ∧
    (∀ inv c C, S.children.lookup inv = some c → lookup w c = some C → C.receiverDropped = false →
      reservedInvokeId inv = false →
      routeSend w S (pfxInvoke ++ inv) ev = .done (enqExt w c (stamp S.sid ev)) true)

/-- (b) name, sendid and data arrive unchanged: the event that is enqueued is the event
`SendParameters::execute` built, apart from origin/origintype -/
def C15b_full : Prop :=
  ∀ (δ : Type) (w w' : World δ) (ctr : Nat) (S : Session δ) (sp : SendSpec δ),
    sp.delayMs = 0 → procTypes.contains (if sp.type = [] then procUrl else sp.type) = true →
    routeSend w S sp.target (buildEvent S sp (sendId sp ctr).1) = .done w' true →
      execSend w ctr S sp = .done w' (sendId sp ctr).2 true ∧
      let e := stamp S.sid (buildEvent S sp (sendId sp ctr).1)
      e.name = sp.event ∧
      e.sendid = (if sp.idLocation then some (genId sp.stateName ctr)
                  else if sp.idLiteral = [] then none else some sp.idLiteral) ∧
      (sp.hasContent = true → e.content = sp.content ∧ e.params = none) ∧
      (sp.hasContent = false → e.content = none ∧
        e.params = if sp.params.isEmpty then none else some sp.params) ∧
      e.origin = some (location S.sid) ∧ e.originType = some procUrl ∧ e.invokeId = S.caller

/-- (c) a reply sent to the received event's origin (through the processor named by its
origintype) is enqueued on the original sender's external queue, in any later world in which the
sender is still registered -/
def C15c_full : Prop :=
  ∀ (δ : Type) (w : World δ) (S S' R : Session δ) (ev reply : Event δ),
    ev.origin = none → S.sid < 4294967296 →
    lookup w S.sid = some S' → S'.receiverDropped = false →
      ∃ o ty, (stamp S.sid ev).origin = some o ∧ (stamp S.sid ev).originType = some ty ∧
        procTypes.contains ty = true ∧
        routeSend w R o reply = .done (enqExt w S.sid (stamp R.sid reply)) true

/-- (d) ids: whatever the interleaving of the threads' `fetch_add` calls, the values handed out
are pairwise distinct (below wrap-around); generated ids are injective in the platform id, even
across different state names; `#_scxml_<id>` locations are injective in the id -/
def C15d_full : Prop :=
  (∀ (c : Nat) (sched : List Nat), c + sched.length ≤ 4294967296 →
      ((runCounter c sched).1.map Prod.snd).Nodup ∧
      (runCounter c sched).1.map Prod.fst = sched) ∧
  (∀ (st1 st2 : Str) (n m : Nat), genId st1 n = genId st2 m → n = m) ∧
  (∀ n m : Nat, location n = location m → n = m)

def C15_full : Prop := C15a_full ∧ C15_targets_full ∧ C15b_full ∧ C15c_full ∧ C15d_full

section
variable {δ : Type}

theorem C15_route_did (w w' : World δ) (S S' : Session δ) (target : Str) (ev : Event δ) (ok : Bool)
    (hS : lookup w S.sid = some S') (h : routeSend w S target ev = .done w' ok) :
    Did w S ev w' ok := by
  rcases routeSend_cases w S target ev with h' | h' | ⟨sid, T, hT, h'⟩ | ⟨e, he, h'⟩ <;>
    cases h'.symm.trans h
  · exact .ext S.sid S' hS
  · exact .int
  · exact .ext sid T hT
  · exact .err e he
#assert_axioms C15_route_did

theorem C15_did_queued (w w' : World δ) (S S' : Session δ) (ev : Event δ) (ok : Bool)
    (hnd : (w.map (·.sid)).Nodup) (hS : lookup w S.sid = some S') (h : Did w S ev w' ok) :
    queued w' = queued w + 1 := by
  cases h with
  | ext sid T hl => exact queued_enqExt w sid _ T hnd hl
  | int => exact queued_enqInt w S.sid _ S' hnd hS
  | err e _ => exact queued_enqInt w S.sid _ S' hnd hS
#assert_axioms C15_did_queued

theorem C15a : C15a_full := by
  intro δ w w' S S' target ev ok hnd hS h
  have hd := C15_route_did w w' S S' target ev ok hS h
  exact ⟨hd, C15_did_queued w w' S S' ev ok hnd hS hd⟩
#assert_axioms C15a

/-- frame: an enqueue on session `q`'s external queue leaves every other session, and `q`'s other
fields, as they were; `q`'s external queue grows by exactly that event at the tail -/
theorem C15_enqExt_frame (w : World δ) (q sid' : Nat) (e : Event δ) :
    lookup (enqExt w q e) sid' =
      (lookup w sid').map fun s => if s.sid = q then { s with extQ := s.extQ ++ [e] } else s :=
  lookup_modify w q sid' _ (fun _ => rfl)
#assert_axioms C15_enqExt_frame

theorem C15_enqInt_frame (w : World δ) (q sid' : Nat) (e : Event δ) :
    lookup (enqInt w q e) sid' =
      (lookup w sid').map fun s => if s.sid = q then { s with intQ := s.intQ ++ [e] } else s :=
  lookup_modify w q sid' _ (fun _ => rfl)
#assert_axioms C15_enqInt_frame

theorem C15_targets : C15_targets_full := by
  intro δ w S ev
  refine ⟨routeSend_internal w S ev, routeSend_nil w S ev, ?_, ?_, ?_⟩
  · intro n T hn hl hd
    exact routeSend_registered w S ev hn hl hd
  · intro p P hp hl hd
    rw [routeSend_parent, hp]
    exact sendToSession_ok _ _ hl hd
  · intro inv c C hc hl hd hres
    simp only [reservedInvokeId, Bool.or_eq_false_iff, beq_eq_false_iff_ne] at hres
    rw [routeSend_invoke w S ev hres.1.1 hres.1.2 hres.2, hc]
    exact sendToSession_ok _ _ hl hd
#assert_axioms C15_targets

theorem C15b : C15b_full := by
  intro δ w w' ctr S sp hdelay hty hroute
  refine ⟨?_, rfl, ?_, ?_, ?_, rfl, rfl, rfl⟩
  · unfold execSend
    simp only [hdelay, hty, hroute]
    simp
  · simp only [stamp, buildEvent, sendId, fetchAdd]
    split <;> (try split) <;> rfl
  · intro hc; simp [stamp, buildEvent, hc]
  · intro hc; simp [stamp, buildEvent, hc]
#assert_axioms C15b

theorem C15c : C15c_full := by
  intro δ w S S' R ev reply horig hlt hl hd
  refine ⟨location S.sid, procUrl, ?_, rfl, by decide, ?_⟩
  · simp [stamp, horig]
  · exact routeSend_registered w R reply hlt hl hd
#assert_axioms C15c

theorem C15d : C15d_full := by
  refine ⟨fun c sched h => ⟨?_, runCounter_threads c sched⟩, fun _ _ _ _ => genId_injective,
    fun _ _ => location_injective⟩
  rw [runCounter_values c sched h]
  exact List.nodup_range'
#assert_axioms C15d

end

theorem C15 : C15_full := ⟨C15a, C15_targets, C15b, C15c, C15d⟩
#assert_axioms C15

/-! ## what the code does outside the statement's target forms, and quirks (all modelled) -/

section
variable {δ : Type}

/-- P9 (belonged to C12; repaired by /repo commit 9d6cb1f): a well-formed `#_scxml_<n>` for an
unregistered `n` used to panic in `todo!()`; now the send fails with `error.communication` on the
sender's internal queue, as the Recommendation says -/
theorem C15_unknown_session_error (w : World δ) (S : Session δ) (n : Nat) (ev : Event δ)
    (hn : n < 4294967296) (hl : lookup w n = none) :
    routeSend w S (location n) ev =
      .done (enqInt w S.sid (errorCommunication (stamp S.sid ev))) false := by
  rw [routeSend_location w S hn, sendToSession_unknown _ _ hl]
#assert_axioms C15_unknown_session_error

/-- P9 (belonged to C12; repaired by /repo commit bcf85d6): `#_parent` in a session without
parent used to panic in `unwrap()`; now the send fails with `error.communication` -/
theorem C15_no_parent_error (w : World δ) (S : Session δ) (ev : Event δ) (hp : S.parent = none) :
    routeSend w S tParent ev =
      .done (enqInt w S.sid (errorCommunication (stamp S.sid ev))) false := by
  rw [routeSend_parent, hp]
#assert_axioms C15_no_parent_error

/-- the processor never panics: for every world, sender, target text and event -/
theorem C15_no_panic (w : World δ) (S : Session δ) (target : Str) (ev : Event δ) :
    ∃ w' ok, routeSend w S target ev = .done w' ok :=
  routeSend_done w S target ev
#assert_axioms C15_no_panic

/-- quirk: after a failed routing `SendParameters::execute` adds a second error event
(`error.execution`) behind the processor's `error.communication` / `error.execution` -/
theorem C15_failed_send_two_errors (w w' : World δ) (ctr : Nat) (S : Session δ) (sp : SendSpec δ)
    (hdelay : sp.delayMs = 0) (hty : procTypes.contains (if sp.type = [] then procUrl else sp.type) = true)
    (h : routeSend w S sp.target (buildEvent S sp (sendId sp ctr).1) = .done w' false) :
    execSend w ctr S sp =
      .done (enqInt w' S.sid (errorExecution (sendId sp ctr).1 S.caller)) (sendId sp ctr).2 false := by
  unfold execSend
  simp only [hdelay, hty, h]
  simp
#assert_axioms C15_failed_send_two_errors

/-- a `<send>` that fails (returns `false`) touches no external queue of any session: only
error events on the sender's internal queue -/
theorem C15_failed_send_touches_no_external_queue (w w' : World δ) (ctr c : Nat) (S S' : Session δ)
    (sp : SendSpec δ) (hS : lookup w S.sid = some S')
    (h : execSend w ctr S sp = .done w' c false) :
    ∀ sid, (lookup w' sid).map (·.extQ) = (lookup w sid).map (·.extQ) := by
  -- `hS` is not needed: what a failed routing leaves behind (`routeSend_fail`) does not depend on the
  -- sender being registered
  clear hS
  intro sid
  rcases execSend_cases w ctr S sp with h' | h' | ⟨_, _, h'⟩ | ⟨w1, hr, h'⟩
  · cases h'.symm.trans h; exact extQ_enqInt _ _ _ _
  · cases h'.symm.trans h
  · cases h'.symm.trans h
  · cases h'.symm.trans h
    obtain ⟨e, _, rfl⟩ := routeSend_fail hr
    rw [extQ_enqInt, extQ_enqInt]
#assert_axioms C15_failed_send_touches_no_external_queue

/-- P13 (finding of C14, recorded here because it shows in C15's runs): an invoked session `M`
(caller invoke id `m`) sends to ANY receiver `C` whose own caller id differs from `m` and that has no child
with invoke id `m` (a session other than its invoker, say).  The
event IS enqueued on `C`'s external queue (C15 holds) and is then dropped by `C`'s dequeue
filter, unless its name starts with `done.invoke.`. -/
theorem C15_P13_enqueued_then_dropped (w : World δ) (M C C' : Session δ) (sp : SendSpec δ)
    (sid : Option Str) (m : Str)
    (hm : M.caller = some m) (hc : C.caller.getD [] ≠ m)
    (hch : (C.children.map Prod.fst).contains m = false)
    (hname : doneInvokePrefix.isPrefixOf sp.event = false)
    (hC : C.sid < 4294967296) (hl : lookup w C.sid = some C') (hd : C'.receiverDropped = false) :
    routeSend w M (location C.sid) (buildEvent M sp sid) =
        .done (enqExt w C.sid (stamp M.sid (buildEvent M sp sid))) true ∧
      accepts C (stamp M.sid (buildEvent M sp sid)) = false := by
  refine ⟨routeSend_registered w M _ hC hl hd, ?_⟩
  unfold accepts
  simp only [stamp, buildEvent, hname, hm, Bool.false_eq_true, if_false]
  rw [if_pos hc]
  exact hch
#assert_axioms C15_P13_enqueued_then_dropped

/-- what does hold for the filter: events of a sender that was not itself invoked (host-started
session) pass every receiver's filter, and a child's events pass its parent's filter -/
theorem C15_filter_accepts_partial (S R : Session δ) (sp : SendSpec δ) (sid : Option Str) :
    (S.caller = none → accepts R (stamp S.sid (buildEvent S sp sid)) = true) ∧
    (∀ i, S.caller = some i → (R.children.map Prod.fst).contains i = true →
      accepts R (stamp S.sid (buildEvent S sp sid)) = true) := by
  constructor
  · intro h; simp [accepts, stamp, buildEvent, h]
  · intro i h hc
    simp only [accepts, stamp, buildEvent, h]
    split
    · rfl
    · split
      · exact hc
      · rfl
#assert_axioms C15_filter_accepts_partial

end

/-! ## concrete instances (non-vacuity), payload type `Nat` -/

private def mkS (sid : Nat) (parent : Option Nat) (caller : Option Str) (children : List (Str × Nat)) :
    Session Nat :=
  { sid := sid, parent := parent, caller := caller, children := children, receiverDropped := false,
    extQ := [], intQ := [] }
private def ev0 : Event Nat :=
  { name := [101], etype := .external, sendid := some [105], origin := none, originType := none,
    invokeId := none, params := some [([112], 7)], content := none }
-- parent 1 with child 2 (invoke id "c"), sibling 3
private def w0 : World Nat :=
  [mkS 1 none none [([99], 2)], mkS 2 (some 1) (some [99]) [], mkS 3 none none []]

example : (w0.map (·.sid)).Nodup := by decide
example : lookup w0 1 = some (mkS 1 none none [([99], 2)]) := by decide
-- "#_c" reaches session 2's external queue, and nothing else changes
example : (match routeSend w0 (mkS 1 none none [([99], 2)]) [35, 95, 99] ev0 with
    | .done w' ok => (ok, w'.map (fun s => (s.sid, s.extQ.length, s.intQ.length)))
    | .panic _ => (false, [])) = (true, [(1, 0, 0), (2, 1, 0), (3, 0, 0)]) := by decide
-- the id text of "#_scxml_<id>" is read like Rust's parse::<u32>: "+3" and "003" are 3
example : parseU32 [43, 51] = some 3 ∧ parseU32 [48, 48, 51] = some 3 ∧ parseU32 [45, 51] = none ∧
    parseU32 [43] = none ∧ parseU32 [] = none ∧ parseU32 [51, 32] = none ∧
    parseU32 [52, 50, 57, 52, 57, 54, 55, 50, 57, 54] = none ∧
    parseU32 [52, 50, 57, 52, 57, 54, 55, 50, 57, 53] = some 4294967295 := by decide
example : showNat 0 = [48] ∧ showNat 4711 = [52, 55, 49, 49] := by decide
-- reserved invoke ids
example : reservedInvokeId [112, 97, 114, 101, 110, 116] = true ∧ reservedInvokeId [99] = false := by decide
-- unknown session and malformed session id: error.communication; foreign scheme: error.execution
example : (match routeSend w0 (mkS 3 none none []) (pfxSession ++ [57]) ev0 with
    | .done w' ok => (ok, (lookup w' 3).map (fun s => s.intQ.map (·.name)))
    | .panic _ => (true, none)) = (false, some [errComm]) := by decide
example : (match routeSend w0 (mkS 3 none none []) (pfxSession ++ [120]) ev0 with
    | .done w' ok => (ok, (lookup w' 3).map (fun s => s.intQ.map (·.name)))
    | .panic _ => (true, none)) = (false, some [errComm]) := by decide
example : (match routeSend w0 (mkS 3 none none []) [120] ev0 with
    | .done w' ok => (ok, (lookup w' 3).map (fun s => s.intQ.map (·.name)))
    | .panic _ => (true, none)) = (false, some [errExec]) := by decide
-- a NON-atomic counter hands out the same id twice: atomicity of fetch_add is what (d) rests on
example : runRacy 1 [] [.load 0, .load 1, .store 0, .store 1] = [(0, 1), (1, 1)] := by decide
example : (runCounter 1 [0, 1, 0, 1]).1 = [(0, 1), (1, 2), (0, 3), (1, 4)] := by decide

end Rfsm.Route
