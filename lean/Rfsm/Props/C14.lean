import Rfsm.Audit
import Rfsm.Props.C07
/-!
# C14 — Invoked child sessions follow the SCXML invoke life cycle

Model: the invoke bookkeeping of `Rfsm.Interp` — `toInvoke` (`statesToInvoke`), `runInvokes` /
`invokeState` / `invokeOne`, `children` (`GlobalData.child_sessions`), `cancelChildren` in
`exitOne`, the dequeue filter `acceptExternal` / `takeExternal`, `preExternal` (`done.invoke`
bookkeeping, `_event`, `<finalize>`, autoforward) and `exitInterpreter`.

The model follows the code *after* two repairs (`fix:` commits in /repo): every `<invoke>` element
has its own document id (all were 0: leaving any invoking state cancelled every invocation of the
machine, and every `<finalize>` of a state ran for each of its children), and autoforward sends every
external event to every active autoforward invocation (it only echoed a child's own events back to
that child).

What the code does NOT guarantee, shown as counterexample theorems and replayed by the harness:
`done.invoke.*`-named events bypass the filter (`C14_counterexample_done_invoke_bypass`, P14), and
the bookkeeping is keyed by the invoke id alone, so with an author-chosen `id` a late event or
`done.invoke` of an earlier invocation is attributed to the re-invoked one
(`C14_counterexample_late_done_unregisters_new_instance`).
-/
namespace Rfsm.Interp
open Rfsm.Descriptor (Str)

variable {σ : Type}

/-! ## which states are invoked: `statesToInvoke` through a microstep -/

/-- `statesToInvoke` after a microstep = (what it was, minus the exit set) plus the entry set -/
theorem C14_toInvoke_microstep (env : Env σ) (d : Doc) (s : Sess σ) (ts : List Nat) (x : Nat) :
    x ∈ (microstep env d s ts).toInvoke ↔
      (x ∈ s.toInvoke ∧ x ∉ computeExitSet d s.hv s.cfg ts) ∨
      x ∈ (computeEntrySet d (exitStates env d s ts).hv ts).toEnter := by
  obtain ⟨o, e, r, h⟩ := microstep_eq env d s ts
  rw [h]
  simp only [mem_foldl_oadd, mem_foldl_odel, mem_sortBy]
#assert_axioms C14_toInvoke_microstep

/-- … so a state that is entered and exited again before the macrostep ends is not invoked, and the
    states waiting for their invocation are always active: `statesToInvoke ⊆ configuration` is
    preserved by every microstep -/
theorem C14_toInvoke_subset_cfg (env : Env σ) (d : Doc) (s : Sess σ) (ts : List Nat)
    (h : ∀ x, x ∈ s.toInvoke → x ∈ s.cfg) :
    ∀ x, x ∈ (microstep env d s ts).toInvoke → x ∈ (microstep env d s ts).cfg := by
  intro x
  obtain ⟨o, e, r, hm⟩ := microstep_eq env d s ts
  rw [hm]
  simp only [mem_foldl_oadd, mem_foldl_odel, mem_sortBy, mem_sortByDesc]
  exact Or.imp_left fun hx => ⟨h x hx.1, hx.2⟩
#assert_axioms C14_toInvoke_subset_cfg

/-- start-up: exactly the initial configuration waits for invocation -/
theorem C14_toInvoke_start (env : Env σ) (d : Doc) (s0 : Sess σ) (h0 : s0.toInvoke = []) (ts : List Nat) (x : Nat) :
    x ∈ (enterStates env d s0 ts).toInvoke ↔ x ∈ (computeEntrySet d s0.hv ts).toEnter := by
  obtain ⟨o, e, r, h⟩ := enterStates_eq env d s0 ts
  rw [h]
  simp [mem_foldl_oadd, mem_sortBy, h0]
#assert_axioms C14_toInvoke_start

/-! ## the invocation phase at the end of a macrostep -/

/-- the `<invoke>` elements of a state in the order `invokeState` starts them -/
def invokeOrder (d : Doc) (sid : Nat) : List Invoke :=
  (sortBy (fun i => i) ((getState d sid).invokes.map (·.docId))).filterMap
    (fun idoc => (getState d sid).invokes.find? (·.docId == idoc))

theorem invokeState_eq (env : Env σ) (d : Doc) (s : Sess σ) (sid : Nat) :
    invokeState env d s sid = (invokeOrder d sid).foldl (invokeOne env sid) s := by
  unfold invokeState invokeOrder
  simp only [List.foldl_filterMap]
  congr 1
  funext s idoc
  split <;> simp [*]
#assert_axioms invokeOne_trace
#assert_axioms invokeState_eq

theorem invokeState_trace (env : Env σ) (d : Doc) (s : Sess σ) (sid : Nat) :
    (invokeState env d s sid).trace = s.trace ++ (invokeOrder d sid).map (fun inv => Obs.invoke sid inv.docId) := by
  rw [invokeState_eq, foldl_trace (invokeOne_trace env sid)]
  rw [List.map_eq_flatMap]
#assert_axioms invokeState_trace

/-- the invocation phase: the states waiting in `statesToInvoke`, in document (entry) order (a
    permutation: each once if the list is duplicate free, which is not stated), have their `<invoke>`
    elements started in the order of `invokeOrder`; nothing else is started; afterwards nothing waits -/
theorem C14_invoke_phase (env : Env σ) (d : Doc) (s : Sess σ) :
    (runInvokes env d s).trace =
      s.trace ++ (sortBy (docIdOf d) s.toInvoke).flatMap
        (fun sid => (invokeOrder d sid).map (fun inv => Obs.invoke sid inv.docId)) ∧
    (runInvokes env d s).toInvoke = [] ∧
    (sortBy (docIdOf d) s.toInvoke).Perm s.toInvoke := by
  refine ⟨?_, rfl, sortBy_perm _ _⟩
  exact foldl_trace (invokeState_trace env d) _ s
#assert_axioms C14_invoke_phase

/-- events raised while invoking (an `<invoke>` whose argument evaluation fails raises
    `error.execution`) are handled before the session waits for the next external event: with a
    non-empty internal queue after the invocation phase the loop starts the next macrostep at once -/
theorem C14_invoke_errors_handled_first (env : Env σ) (d : Doc) (c : Str) (m f : Nat) (s s1 : Sess σ)
    (feed : List (List Event)) (hr : s.running = true) (hm : macroLoop env d m s = some s1)
    (hr1 : s1.running = true) (hq : (runInvokes env d s1).iq ≠ []) :
    mainLoop env d c m (f + 1) s feed = mainLoop env d c m f (runInvokes env d s1) feed := by
  conv => lhs; unfold mainLoop
  simp [hr, hm, hr1, hq]
#assert_axioms C14_invoke_errors_handled_first

/-- leaving a state: every registered invocation started by one of the state's `<invoke>`
    elements is cancelled (a `cancelInvoke` for its id, in registration order) and forgotten, before
    the state's `onexit` content runs; all other invocations stay registered -/
theorem C14_cancel_on_exit (env : Env σ) (d : Doc) (s : Sess σ) (sid : Nat) :
    let docs := (getState d sid).invokes.map (·.docId)
    (exitOne env d s sid).children = s.children.filter (fun c => !docs.contains c.invDoc) ∧
    (cancelChildren d (s.emit [.exit sid]) sid).trace =
      s.trace ++ [.exit sid] ++
        ((s.children.filter (fun c => docs.contains c.invDoc)).map (fun c => Obs.cancelInvoke c.invokeId)) := by
  refine ⟨?_, by rw [cancelChildren_eq]; rfl⟩
  obtain ⟨o, h⟩ := exitOne_eq env d s sid
  rw [h]
#assert_axioms C14_cancel_on_exit

/-! ## the dequeue filter -/

/-- an event that carries the invoke id of an invocation that is not (or no longer) registered, is
    not named `done.invoke.*` and is not from the session's own invoker, is never handed to the
    interpreter: `takeExternal` discards it -/
theorem C14_filter_drops (caller : Str) (s : Sess σ) (e : Event) (rest : List Event) (iid : Str)
    (hi : e.invokeId = some iid) (hc : caller ≠ iid)
    (hn : doneInvokePrefix.isPrefixOf e.name = false)
    (hr : s.children.any (·.invokeId == iid) = false) :
    acceptExternal caller s e = false ∧
    takeExternal caller s (e :: rest) = takeExternal caller (s.emit [.dropped e.name]) rest := by
  have h : acceptExternal caller s e = false := (acceptExternal_foreign hn hi hc).trans hr
  refine ⟨h, ?_⟩
  conv => lhs; unfold takeExternal
  simp [h]
#assert_axioms C14_filter_drops

/-- after `cancelInvoke c` (ids of registered invocations pairwise distinct) no event carrying
    `c`'s invoke id passes the filter — unless it is named `done.invoke.*` -/
theorem C14_no_event_after_cancel_partial (caller : Str) (s : Sess σ) (c : Child) (e : Event)
    (hu : (s.children.map (·.invokeId)).Nodup) (hm : c ∈ s.children)
    (hi : e.invokeId = some c.invokeId) (hc : caller ≠ c.invokeId)
    (hn : doneInvokePrefix.isPrefixOf e.name = false) :
    acceptExternal caller (cancelOne s c) e = false :=
  (acceptExternal_foreign hn hi hc).trans (cancelOne_unregisters hu hm)
#assert_axioms eq_of_nodup_map
#assert_axioms C14_no_event_after_cancel_partial

/-- P14: an event named `done.invoke.<anything>` passes the filter whatever invoke id it carries
    — also the one of a cancelled invocation -/
theorem C14_counterexample_done_invoke_bypass (caller : Str) (s : Sess σ) (e : Event)
    (hn : doneInvokePrefix.isPrefixOf e.name = true) : acceptExternal caller s e = true := by
  unfold acceptExternal
  simp [hn]
#assert_axioms C14_counterexample_done_invoke_bypass

/-- "processes no event from a child after cancelling it" at full strength -/
def C14_no_event_after_cancel_full : Prop :=
  ∀ (σ : Type) (caller : Str) (s : Sess σ) (c : Child) (e : Event),
    (s.children.map (·.invokeId)).Nodup → c ∈ s.children → e.invokeId = some c.invokeId →
    caller ≠ c.invokeId → acceptExternal caller (cancelOne s c) e = false

theorem C14_counterexample : ¬ C14_no_event_after_cancel_full := by
  intro h
  have := h Unit [] { dm := (), children := [{ invokeId := [99], state := 2, invDoc := 5 }] }
    { invokeId := [99], state := 2, invDoc := 5 }
    { name := doneInvokePrefix ++ [99], invokeId := some [99] } (by decide) (by simp) rfl (by decide)
  rw [C14_counterexample_done_invoke_bypass] at this
  · cases this
  · simp [List.isPrefixOf_iff_prefix]
#assert_axioms C14_counterexample

/-- the registration is keyed by the invoke id alone: the `done.invoke` of an EARLIER invocation
    that used the same (author-chosen) id removes the registration of the current one (the statement: the
    registry is empty afterwards) -/
theorem C14_counterexample_late_done_unregisters_new_instance (s : Sess σ) (cnew : Child) (e : Event)
    (hn : doneInvokePrefix.isPrefixOf e.name = true) (hi : e.invokeId = some cnew.invokeId)
    (hs : s.children = [cnew]) :
    (forgetDoneChild s e).children = [] := by
  unfold forgetDoneChild
  simp [hn, hi, hs]
#assert_axioms C14_counterexample_late_done_unregisters_new_instance

/-! ## `_event`, `<finalize>` before the selection, autoforward -/

/-- the preliminaries (`done.invoke` bookkeeping, `_event`, the `<finalize>` blocks, autoforward) come
    first; the selection runs in the session they produced -/
theorem C14_finalize_before_selection (env : Env σ) (d : Doc) (s : Sess σ) (e : Event) :
    processExternal env d s e =
      (if (select env d (some e.name) (preExternal env d s e)).2.isEmpty
       then (select env d (some e.name) (preExternal env d s e)).1
       else microstep env d (select env d (some e.name) (preExternal env d s e)).1
              (select env d (some e.name) (preExternal env d s e)).2) ∧
    preExternal env d s e =
      (forwardList d (forgetDoneChild (s.emit [.ext e.name]) e) e).foldl (forwardOne e)
        ((finalizeList d (forgetDoneChild (s.emit [.ext e.name]) e) e).foldl (runContent env)
          { forgetDoneChild (s.emit [.ext e.name]) e with
              dm := env.setEvent (forgetDoneChild (s.emit [.ext e.name]) e).dm e }) :=
  ⟨rfl, rfl⟩
#assert_axioms C14_finalize_before_selection

/-- which `<finalize>` runs: the one of the `<invoke>` element that started the sender — none for
    an event that does not come from a registered invocation -/
theorem C14_finalize_of_the_sender (d : Doc) (s : Sess σ) (e : Event) :
    (e.invokeId = none → finalizeList d s e = []) ∧
    (∀ iid, e.invokeId = some iid → s.children.find? (·.invokeId == iid) = none → finalizeList d s e = []) ∧
    (∀ iid c, e.invokeId = some iid → s.children.find? (·.invokeId == iid) = some c →
      finalizeList d s e = ((getState d c.state).invokes.filter (·.docId == c.invDoc)).map (·.finalize)) := by
  refine ⟨?_, ?_, ?_⟩
  · intro h; simp [finalizeList, childOf, h]
  · intro iid h1 h2; simp [finalizeList, childOf, h1, h2]
  · intro iid c h1 h2; simp [finalizeList, childOf, h1, h2]
#assert_axioms C14_finalize_of_the_sender

/-- autoforward: for an external event that does not report `done.invoke`, the trace of the
    preliminaries ends with one `forward` per registered invocation whose `<invoke>` element has
    `autoforward`, in registry order; what stands before them (`pre`) is not constrained here -/
theorem C14_autoforward (env : Env σ) (d : Doc) (s : Sess σ) (e : Event)
    (hn : doneInvokePrefix.isPrefixOf e.name = false) :
    ∃ pre : List Obs,
      (preExternal env d s e).trace =
        pre ++ ((s.children.filter (childAutoforward d)).map (fun c => Obs.forward c.invokeId e.name)) := by
  have h := preExternal_forwards env d s e
  rwa [show forgetDoneChild s e = s by unfold forgetDoneChild; simp [hn]] at h
#assert_axioms C14_autoforward

/-! ## `done.invoke`: the parent forgets the invocation; the child sends it last (who sends it: C07) -/

/-- the parent forgets an invocation when its `done.invoke` is accepted -/
theorem C14_done_forgets (s : Sess σ) (e : Event) (iid : Str)
    (hn : doneInvokePrefix.isPrefixOf e.name = true) (hi : e.invokeId = some iid) :
    (forgetDoneChild s e).children = s.children.filter (·.invokeId != iid) := by
  unfold forgetDoneChild
  simp [hn, hi]
#assert_axioms C14_done_forgets

/-- the child's side of "done.invoke after all other events of that child": when the session ends
    in a top-level final state `f` (the legal configuration is then `{<scxml>, f}`; the `<scxml>` element
    has no `onexit` and is no final state), `done.invoke` is the LAST thing `exitInterpreter` does —
    after the final state's own `onexit` content, with nothing after it -/
theorem C14_done_invoke_last (env : Env σ) (d : Doc) (hasParent : Bool) (s : Sess σ) (f : Nat)
    (hcfg : sortByDesc (docIdOf d) s.cfg = [f, d.root])
    (hrx : (getState d d.root).onexit = []) (hrf : isFinalStateId d d.root = false) :
    let s0 := s.children.foldl (fun s c => s.emit [.cancelInvoke c.invokeId]) (s.emit [.finalCfg s.cfg])
    let s1 := (getState d f).onexit.foldl (runContent env) s0
    (exitInterpreter env d hasParent s).trace =
      s1.trace ++ (if isFinalStateId d f && (getState d f).parent == d.root && hasParent then [.doneInvoke] else []) := by
  simp only
  rw [(C07_exit_interpreter env d hasParent s).2.2, hcfg]
  -- the root runs no content and is no final state: its step leaves the trace alone
  simp [exitFinalOne_trace, hrx, hrf]
#assert_axioms C14_done_invoke_last

/-- C14 — three of the clauses above in one statement: a microstep preserves
    `statesToInvoke ⊆ configuration`; after the invocation phase nothing waits; leaving a state
    unregisters exactly its invocations -/
theorem C14_partial (env : Env σ) (d : Doc) (s : Sess σ) (ts : List Nat) :
    ((∀ x, x ∈ s.toInvoke → x ∈ s.cfg) →
      ∀ x, x ∈ (microstep env d s ts).toInvoke → x ∈ (microstep env d s ts).cfg) ∧
    (runInvokes env d s).toInvoke = [] ∧
    (∀ sid, (exitOne env d s sid).children =
      s.children.filter (fun c => !((getState d sid).invokes.map (·.docId)).contains c.invDoc)) :=
  ⟨C14_toInvoke_subset_cfg env d s ts, rfl, fun sid => (C14_cancel_on_exit env d s sid).1⟩
#assert_axioms C14_partial

private def exDoc14 : Doc :=
  { root := 1, states := [
      { id := 1, docId := 1, kids := [2, 3], initial := 0 },
      { id := 2, docId := 2, parent := 1, invokes := [{ docId := 7, autoforward := true, finalize := 0, id := [99] }] },
      { id := 3, docId := 3, parent := 1 }], transitions := [] }
example : invokeOrder exDoc14 2 = [{ docId := 7, autoforward := true, finalize := 0, id := [99] }] := by decide
example : sortByDesc (docIdOf exDoc14) [1, 3] = [3, 1] ∧ (getState exDoc14 1).onexit = [] ∧
    isFinalStateId exDoc14 1 = false := by decide
example : childAutoforward exDoc14 { invokeId := [99], state := 2, invDoc := 7 } = true := by decide

end Rfsm.Interp
