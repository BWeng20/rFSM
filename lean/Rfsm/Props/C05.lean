import Rfsm.Audit
import Rfsm.Proofs.CodecFsm
/-!
# C05 — Binary `.rfsm` round trip preserves the model (and hence its behaviour)

Model: `Rfsm.Codec` (lean/Rfsm/Model/Codec.lean): the writer as the sequence of primitive protocol
calls `FsmWriter::write` issues (`opsFsm`) and the bytes they put into a `Vec<u8>` (`imageOf`), the
reader as `FsmReader::read` over `DefaultProtocolReader` (`readImage`).  The writer has no panic site
any more (`write_str` used to slice `value[0..len & 0x0FFF]`).

The model value `Fsm` consists of the persisted fields only, so "structurally identical in every
persisted element" is equality of model values.  The behavioural half of the property is then a
congruence: an interpreter model that is a function of the persisted tables gives equal traces for
equal tables.  What that leaves to be established about the *code* — that the real interpreter reads
nothing but persisted fields — is checked by the correspondence run (original vs reloaded machine on
generated event sequences, harness family `c05`), not by a theorem here.

`wfFsm L f` collects what must hold of a model: ids fit `u32`, integers `i64`, strings are valid UTF-8
(guaranteed by Rust's `String`) and shorter than `L.strMax`, `u64`/`usize` values are below `L.uMax`,
the text of a double parses as `f64`, `Data` nesting is below the model's fuel, the three
conditionally stored fields are in normal form (an empty transition condition is `Null`; `initial` is 0
without child states; `Invoke.parent_state_name` is empty unless `invoke_id` is empty), and a parameter
list is not `Some([])`.  `typeLim` is what the Rust types allow: strings below 2^64 bytes, the whole
`u64` range.  Since the repairs P5/P6 (68 bit integers written with their eight value bytes, string
type 0xE0 with a 64 bit length) the code is lossless on all of it.
-/
namespace Rfsm.Codec

/-- a model survives: what the reader returns for the written image is the model, with no error flagged;
and on the image followed by anything it leaves exactly what follows -/
def Survives (f : Fsm) : Prop :=
  readImageFull (imageOf f) = (ReadResult.ok f, false) ∧
  ∀ rest : List Nat, ((readFsmProg.run (RState.init (imageOf f ++ rest))).2.inp = rest)

/-- The property at full strength: every primitive value and every model the Rust types allow
survives the round trip. -/
def C05_full : Prop :=
  (∀ v : Nat, v < 2 ^ 64 → ∀ rest, (pUInt.run (RState.init ((uintOp v).bytes ++ rest))).1 = v) ∧
  (∀ s : Str, validUtf8 s = true → s.length < 2 ^ 64 →
      ∀ rest, (pStr.run (RState.init ((Op.str s).bytes ++ rest))).1 = s) ∧
  (∀ f : Fsm, wfFsm typeLim f = true → Survives f)

/-- every `u64`: exact round trip, whatever follows in the stream -/
theorem C05_uint (v : Nat) (hv : v < 2 ^ 64) (rest : List Nat) :
    ∃ t, pUInt.run (RState.init ((uintOp v).bytes ++ rest)) = (v, ⟨rest, true, t, v, none⟩) :=
  readUInt_roundtrip v hv rest 0 0 none
#assert_axioms C05_uint

/-- every string a Rust `String` can hold (valid UTF-8, length below 2^64): exact round trip -/
theorem C05_str (s : Str) (hu : validUtf8 s = true) (hl : s.length < 2 ^ 64) (rest : List Nat) :
    pStr.run (RState.init ((Op.str s).bytes ++ rest)) = (s, ⟨rest, true, strTid s, 0, none⟩) :=
  readString_roundtrip s hl hu rest 0 0 none
#assert_axioms C05_str

/-- every `Data` value (all ten variants, arrays and maps nested to any depth below the fuel) -/
theorem C05_data (d : Data) (hw : wfD typeLim d = true) (rest : List Nat) :
    ∃ t n, readData.run (RState.init (bytesOf (opsData d) ++ rest)) = (d, ⟨rest, true, t, n, none⟩) :=
  Reads.wdata hw rest 0 0 none
#assert_axioms C05_data

/-- the integer text: `i64::to_string` then `str::parse::<i64>` is the identity on the whole `i64` range -/
theorem C05_i64_text (v : Int) (h1 : -(2 ^ 63) ≤ v) (h2 : v < 2 ^ 63) : parseI64 (showInt v) = some v :=
  parseI64_showInt v h1 h2
#assert_axioms C05_i64_text

/-- every model the types allow — all states, transitions, the nine executable content kinds, invoke,
donedata, data, for every order in which the hash maps are iterated — is read back identical, with no
error flagged and exactly the trailing bytes left over -/
theorem C05_model (f : Fsm) (h : wfFsm typeLim f = true) : Survives f := by
  refine ⟨readImageFull_image h, fun rest => ?_⟩
  obtain ⟨t, n, hr⟩ := Reads.fsm h rest 0 0 none
  simp [RState.init, hr]
#assert_axioms C05_model

theorem C05 : C05_full := by
  refine ⟨fun v hv rest => ?_, fun s hu hl rest => ?_, C05_model⟩
  · obtain ⟨t, h⟩ := C05_uint v hv rest
    rw [h]
  · rw [C05_str s hu hl rest]
#assert_axioms C05

/-- corollary in the form of the property: reading what was written gives the model back -/
theorem C05_roundtrip (f : Fsm) (h : wfFsm typeLim f = true) : readImage (imageOf f) = ReadResult.ok f := by
  simp [readImage, (C05_model f h).1]
#assert_axioms C05_roundtrip

/-! ## regression: the inputs on which the code was lossy before the repairs -/

/-- `write_uint(2^60)` used to be read back as 0 (the 68-bit form shifted by 52, 44, …, 4, 0) -/
theorem C05_uint_regression :
    (uintOp (2 ^ 60)).bytes = [0xB0, 0x10, 0, 0, 0, 0, 0, 0, 0] ∧
    (pUInt.run (RState.init ((uintOp (2 ^ 60)).bytes))).1 = 2 ^ 60 ∧
    (pUInt.run (RState.init ((uintOp (2 ^ 64 - 1)).bytes))).1 = 2 ^ 64 - 1 := by decide
#assert_axioms C05_uint_regression

/-- a string of exactly 4096 bytes used to be written as the two bytes `D0 00` and read back empty;
it now carries the type 0xE0 and its length in eight bytes -/
theorem C05_str_regression (s : Str) (hl : s.length = 4096) :
    (Op.str s).bytes = [0xE0, 0, 0, 0, 0, 0, 0, 0x10, 0] ++ s := by
  have h := strBytes_long s (by omega)
  rw [h, hl]
  rfl
#assert_axioms C05_str_regression

/-- multi-byte text: 2048 times `é` followed by `_` (4097 bytes) used to panic in the writer (the slice
end 4097 & 0x0FFF = 1 is inside the first `é`); it is read back whole -/
theorem C05_str_multibyte_regression :
    (pStr.run (RState.init ((Op.str ((List.replicate 2048 [195, 169]).flatten ++ [95])).bytes))).1 =
      (List.replicate 2048 [195, 169]).flatten ++ [95] := by
  have hl : ((List.replicate 2048 [195, 169]).flatten ++ [95]).length < 2 ^ 64 := by
    rw [List.length_append, List.length_flatten, List.map_replicate, List.sum_replicate_nat]
    decide
  have := C05_str _ (validUtf8_e_acute 2048) hl []
  rw [List.append_nil] at this
  rw [this]
#assert_axioms C05_str_multibyte_regression

/-! ## non-vacuity: a model with a compound state, history, invoke, donedata, data, a guarded
transition and content of several kinds satisfies the hypotheses -/

def exFsm : Fsm :=
  { name := [77], datamodel := [110, 117, 108, 108], binding := .late, pseudoRoot := 1, script := 0,
    states := [
      { id := 1, docId := 1, name := [114], historyType := .none, isParallel := false, isFinal := false,
        initial := 7, states := [2, 3], onentry := [1], onexit := [], transitions := [8],
        invoke := [{ invokeId := [], parentStateName := [114], docId := 4, srcExpr := .none,
                     src := .source [102] 3, typeExpr := .none, typeName := .none, externalIdLocation := [],
                     autoforward := true, finalize := 2, content := some ⟨some [99], none⟩,
                     params := some [⟨[112], [49], []⟩], nameList := [[120]] }],
        history := [4], data := [([118], .source [49] 9)], parent := 0, donedata := none },
      { id := 3, docId := 5, name := [102], historyType := .none, isParallel := false, isFinal := true,
        initial := 0, states := [], onentry := [], onexit := [], transitions := [], invoke := [],
        history := [], data := [], parent := 1, donedata := some ⟨none, some [⟨[97], [], [118]⟩]⟩ }],
    transitions := [
      { id := 8, docId := 6, source := 1, target := [3], events := [[101], [195, 169, 46, 120]],
        ttype := .internal, wildcard := false, cond := .source [118, 61, 61, 49] 10, content := 1 }],
    content := [(1, [.raise [101], .log [] (.array [.integer (-5), .map [([107], .double [49, 46, 53])]]),
                     .ifc (.source [116] 11) 2 0, .script [1, 2]]),
                (2, [.assign (.source [49] 12) (.source [118] 13), .cancel [115] .none])] }

example : wfFsm typeLim exFsm = true := by decide +kernel
example : wfD typeLim (.array [.integer (-5), .map [([107], .double [49, 46, 53])], .none]) = true := by decide

end Rfsm.Codec
