import Rfsm.Audit
import Rfsm.Proofs.ReachLemmas
/-!
# C07 — Final states raise done events and a top-level final ends the session cleanly

Model: `enterFinal` (final-state part of `enterStates`), `macroLoop` / `mainLoop` guards,
`handleExternal` (platform cancel event), `exitInterpreter` of `Rfsm.Interp`.
-/
namespace Rfsm.Interp
open Rfsm.Descriptor (Str)

variable {σ : Type}

/-- the event `done.state.<name of state p>` -/
def doneStateEvent (d : Doc) (p : Nat) (payload : Str) : Event :=
  { name := doneStatePrefix ++ (getState d p).name, data := payload }

/-- entering a final child of a compound state: after the entry content, the donedata is evaluated
    and `done.state.<parent>` (carrying it) is appended to the internal queue; `done.state.<grand
    parent>` follows iff the grandparent is a parallel state all of whose regions are now in a
    final state — one per entered final state; `running` is not touched -/
theorem C07_done_state (env : Env σ) (d : Doc) (s : Sess σ) (sid : Nat)
    (hf : isFinalStateId d sid = true) (hp : (getState d sid).parent ≠ d.root) :
    let p := (getState d sid).parent
    let gp := (getState d p).parent
    let o := env.doneData s.dm s.cfg sid
    (enterFinal env d s sid).running = s.running ∧
    (enterFinal env d s sid).iq =
      s.iq ++ o.1.raised ++ [doneStateEvent d p o.2] ++
        (if isParallelState d gp && (getState d gp).kids.all (isInFinalState d s.cfg)
         then [doneStateEvent d gp []] else []) := by
  intro p gp o
  have hne : ((getState d sid).parent == d.root) = false := by simpa using hp
  rw [enterFinal_eq]
  simp [hf, hne, Sess.absorb, doneStateEvent, p, gp, o]
#assert_axioms C07_done_state

/-- entering a top-level final state stops the session and raises nothing -/
theorem C07_top_level_final (env : Env σ) (d : Doc) (s : Sess σ) (sid : Nat)
    (hf : isFinalStateId d sid = true) (hp : (getState d sid).parent = d.root) :
    (enterFinal env d s sid).running = false ∧ (enterFinal env d s sid).iq = s.iq ∧
    (enterFinal env d s sid).cfg = s.cfg := by
  rw [enterFinal_eq]
  simp [hf, hp]
#assert_axioms C07_top_level_final

/-- entering a non-final state does none of this -/
theorem C07_non_final (env : Env σ) (d : Doc) (s : Sess σ) (sid : Nat)
    (hf : isFinalStateId d sid = false) : enterFinal env d s sid = s := by
  rw [enterFinal_eq]
  simp [hf]
#assert_axioms C07_non_final

/-- once `running` is false no further event — internal or external — is dequeued: both loops
    return the session unchanged -/
theorem C07_stopped_processes_nothing (env : Env σ) (d : Doc) (c : Str) (m f : Nat) (s : Sess σ)
    (feed : List (List Event)) (hr : s.running = false) :
    macroLoop env d (f + 1) s = some s ∧ mainLoop env d c m (f + 1) s feed = some (s, false) := by
  constructor
  · rw [macroLoop_succ]
    simp [hr]
  · conv => lhs; unfold mainLoop
    simp [hr]
#assert_axioms C07_stopped_processes_nothing

/-- the platform cancel event stops the session without selecting or taking any transition: the
    configuration, history and queues are untouched -/
theorem C07_cancel (env : Env σ) (d : Doc) (s : Sess σ) (e : Event) (hc : e.name = cancelName) :
    (handleExternal env d s e).running = false ∧ (handleExternal env d s e).cfg = s.cfg ∧
    (handleExternal env d s e).hv = s.hv ∧ (handleExternal env d s e).iq = s.iq ∧
    (handleExternal env d s e).extq = s.extq := by
  unfold handleExternal
  simp [hc, Sess.emit]
#assert_axioms C07_cancel

/-- one step of `exitInterpreter` for state `sid` -/
def exitFinalOne (env : Env σ) (d : Doc) (hasParent : Bool) (s : Sess σ) (sid : Nat) : Sess σ :=
  let s := (getState d sid).onexit.foldl (runContent env) s
  let s := { s with cfg := odel s.cfg sid }
  if isFinalStateId d sid && (getState d sid).parent == d.root && hasParent then s.emit [.doneInvoke] else s

theorem exitFinalOne_trace (env : Env σ) (d : Doc) (hasParent : Bool) (s : Sess σ) (sid : Nat) :
    (exitFinalOne env d hasParent s sid).trace =
      ((getState d sid).onexit.foldl (runContent env) s).trace ++
        (if isFinalStateId d sid && (getState d sid).parent == d.root && hasParent then [.doneInvoke] else []) := by
  unfold exitFinalOne
  simp only
  split <;> simp [Sess.emit]
#assert_axioms exitFinalOne_trace

/-- shutdown: the final configuration is reported, the invoked children are cancelled, and then
    every active state — each exactly once, in reverse document order — runs its onexit blocks and
    leaves the configuration; `done.invoke` goes to the parent session iff the state is a top-level
    final state and there is a parent session -/
theorem C07_exit_interpreter (env : Env σ) (d : Doc) (hasParent : Bool) (s : Sess σ) :
    let order := sortByDesc (docIdOf d) s.cfg
    order.Pairwise (fun a b => docIdOf d b ≤ docIdOf d a) ∧ order.Perm s.cfg ∧
    exitInterpreter env d hasParent s =
      order.foldl (exitFinalOne env d hasParent)
        (s.children.foldl (fun s c => s.emit [.cancelInvoke c.invokeId]) (s.emit [.finalCfg s.cfg])) :=
  ⟨sortByDesc_sorted _ _, sortByDesc_perm _ _, rfl⟩
#assert_axioms C07_exit_interpreter

/-- `done.invoke` is never sent by a session without parent -/
theorem C07_done_invoke_only_for_child_sessions (env : Env σ) (d : Doc) (s : Sess σ) (sid : Nat) :
    exitFinalOne env d false s sid =
      { (getState d sid).onexit.foldl (runContent env) s with
        cfg := odel ((getState d sid).onexit.foldl (runContent env) s).cfg sid } := by
  unfold exitFinalOne
  simp
#assert_axioms C07_done_invoke_only_for_child_sessions

/-- C07 (model level): `C07_top_level_final` (`running` only), `C07_done_state` weakened to "followed
    by nothing or by `done.state.<grandparent>`", and the `mainLoop` half of
    `C07_stopped_processes_nothing`. -/
def C07_full : Prop :=
  ∀ (σ : Type) (env : Env σ) (d : Doc) (s : Sess σ) (sid : Nat),
    (isFinalStateId d sid = true → (getState d sid).parent = d.root →
      (enterFinal env d s sid).running = false) ∧
    (isFinalStateId d sid = true → (getState d sid).parent ≠ d.root →
      (enterFinal env d s sid).running = s.running ∧
      ∃ tail, (enterFinal env d s sid).iq = s.iq ++ (env.doneData s.dm s.cfg sid).1.raised ++
        [doneStateEvent d (getState d sid).parent (env.doneData s.dm s.cfg sid).2] ++ tail ∧
        (tail = [] ∨ tail = [doneStateEvent d (getState d (getState d sid).parent).parent []])) ∧
    (s.running = false → ∀ c m f feed, mainLoop env d c m (f + 1) s feed = some (s, false))

theorem C07 : C07_full := by
  intro σ env d s sid
  refine ⟨fun hf hp => (C07_top_level_final env d s sid hf hp).1, ?_, ?_⟩
  · intro hf hp
    obtain ⟨h1, h2⟩ := C07_done_state env d s sid hf hp
    refine ⟨h1, _, h2, ?_⟩
    split
    · exact Or.inr rfl
    · exact Or.inl rfl
  · intro hr c m f feed
    exact (C07_stopped_processes_nothing env d c m f s feed hr).2
#assert_axioms C07

end Rfsm.Interp
