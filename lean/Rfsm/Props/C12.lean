import Rfsm.Audit
import Rfsm.Props.C15
import Rfsm.Props.C07
import Rfsm.Props.C08
import Rfsm.Props.C11
/-!
# C12 — No accepted document or event sequence can crash or wedge its session

The property speaks about four layers of the code, each of which has its own model:

* the SCXML event I/O processor and `<send>` after its arguments are evaluated — `Rfsm.Route`
  (tied to the code by the `c15` correspondence family): **full** clause `C12_route`;
* the interpreter loop — `Rfsm.Interp` (tied by the `int` families, here `c12`): the cancel event is
  honoured in every state of the session, and a cancelled session takes no further step:
  clause `C12_cancel`;
* executable content — `Rfsm.Interp` (`Rfsm/Model/Exec.lean`): an erroring `<script>` or `<log>` places
  `error.execution` on the internal queue, for every data model (`C12_content`, true since the `fix:`
  commit for P11; no other element is covered here, `<if>` and one `<send>` case are in C08);
* the rfsm-expression engine — `Rfsm.Expr`: this level is C11 (`Expr.C11_full` is the fourth conjunct of
  `C12_full`).  It is false of the code: `==` on two cyclic values blocks the session thread inside
  `DataArc::eq` (`Expr.C11_counterexample_equal_cyclic`).  The earlier witnesses — `%` by zero
  panicking, `a = a` and `a[a]` blocking on their own mutex, an operator at the end of the text (`1 <`)
  spinning in the lexer — are repaired in the code (`Expr.C11_regression_*`); so is `abs` of `i64::MIN`
  panicking (no regression theorem of its own: `Expr.C11_execute_no_panic`).

`C12_full` is the conjunction at full strength; it is false of the code (`C12_counterexample`: the
expression engine), `C12_partial` is what is proved.  Panics the models do
not contain at all (`create_datamodel` with an unknown data model, a `<history>` without default
transition) are found by the scenario table only and are listed in known_findings.json.
-/
namespace Rfsm.Route

section
variable {δ : Type}

-- (the lemma stands in Proofs/RouteLemmas.lean)
#assert_axioms routeSend_fail

/-- `<send>` (after the evaluation of its arguments) never panics: for every world, counter,
sender and send element -/
theorem C12_send_no_panic (w : World δ) (ctr : Nat) (S : Session δ) (sp : SendSpec δ) (site : PanicSite) :
    execSend w ctr S sp ≠ .panic site := by
  rcases execSend_cases w ctr S sp with h | h | ⟨_, _, h⟩ | ⟨_, _, h⟩ <;> rw [h] <;> nofun
#assert_axioms C12_send_no_panic

def IsErrorEvent (e : Event δ) : Prop := e.name = errComm ∨ e.name = errExec

/-- a `<send>` that fails is reported as error events on the sender's internal queue and changes
nothing else: the world afterwards is the world before with one or two events, all named
`error.communication` or `error.execution`, the last one `error.execution`, appended to the sender's
internal queue -/
theorem C12_failed_send_is_error_events (w w' : World δ) (ctr c : Nat) (S : Session δ) (sp : SendSpec δ)
    (h : execSend w ctr S sp = .done w' c false) :
    ∃ errs : List (Event δ), (errs.length = 1 ∨ errs.length = 2) ∧ (∀ e ∈ errs, IsErrorEvent e) ∧
      (∃ l, errs.getLast? = some l ∧ l.name = errExec) ∧
      w' = errs.foldl (fun w e => enqInt w S.sid e) w := by
  have exec : ∀ sid inv, IsErrorEvent (errorExecution sid inv : Event δ) := fun _ _ => Or.inr rfl
  rcases execSend_cases w ctr S sp with h' | h' | ⟨_, _, h'⟩ | ⟨w1, hr, h'⟩
  · cases h'.symm.trans h
    exact ⟨[_], Or.inl rfl, by simpa using exec _ _, ⟨_, rfl, rfl⟩, rfl⟩
  · cases h'.symm.trans h
  · cases h'.symm.trans h
  · cases h'.symm.trans h
    obtain ⟨e, he, rfl⟩ := routeSend_fail hr
    refine ⟨[e, _], Or.inr rfl, ?_, ⟨_, rfl, rfl⟩, rfl⟩
    have : IsErrorEvent e := he.elim (fun h => h ▸ Or.inl rfl) (fun h => h ▸ exec _ _)
    simpa using ⟨this, exec _ _⟩
#assert_axioms C12_failed_send_is_error_events

/-- which error the Recommendation's failure classes get (event I/O processor level):
nonexistent / unreachable target session → `error.communication`; a target that is no SCXML target
form at all → `error.execution` -/
theorem C12_route_error_classes (w : World δ) (S : Session δ) (ev : Event δ) :
    -- a session id nobody is registered under
    (∀ n, n < 4294967296 → lookup w n = none →
      routeSend w S (location n) ev = .done (enqInt w S.sid (errorCommunication (stamp S.sid ev))) false) ∧
    -- `#_parent` without parent
    (S.parent = none →
      routeSend w S tParent ev = .done (enqInt w S.sid (errorCommunication (stamp S.sid ev))) false) ∧
    -- `#_scxml_<text>` where the text is no session id
    (∀ t, parseU32 t = none → pfxSession ++ t ≠ tInternal → pfxSession ++ t ≠ tParent →
      routeSend w S (pfxSession ++ t) ev = .done (enqInt w S.sid (errorCommunication (stamp S.sid ev))) false) ∧
    -- a target that does not start with `#_`
    (∀ t, t ≠ [] → pfxInvoke.isPrefixOf t = false →
      routeSend w S t ev = .done (enqInt w S.sid (errorExecution ev.sendid ev.invokeId)) false) :=
  ⟨fun n hn hl => C15_unknown_session_error w S n ev hn hl, C15_no_parent_error w S ev,
    fun t ht _ _ => by rw [routeSend_session, ht], fun _ ht hp => routeSend_other w S ev ht hp⟩
#assert_axioms C12_route_error_classes

/-- C12, event I/O processor and `<send>` level, at full strength -/
def C12_route_full : Prop :=
  ∀ (δ : Type) (w : World δ) (ctr : Nat) (S : Session δ) (sp : SendSpec δ),
    (∀ site, execSend w ctr S sp ≠ .panic site) ∧
    (∀ w' c, execSend w ctr S sp = .done w' c false →
      ∃ errs : List (Event δ), (errs.length = 1 ∨ errs.length = 2) ∧ (∀ e ∈ errs, IsErrorEvent e) ∧
        (∃ l, errs.getLast? = some l ∧ l.name = errExec) ∧
        w' = errs.foldl (fun w e => enqInt w S.sid e) w)

theorem C12_route : C12_route_full :=
  fun _ w ctr S sp =>
    ⟨C12_send_no_panic w ctr S sp, fun w' c h => C12_failed_send_is_error_events w w' ctr c S sp h⟩
#assert_axioms C12_route

end

/-! non-vacuity: a failing send in a concrete world -/
private def mkS12 (sid : Nat) : Session Nat :=
  { sid := sid, parent := none, caller := none, children := [], receiverDropped := false, extQ := [], intQ := [] }
private def sp12 (target : Str) : SendSpec Nat :=
  { target := target, event := [101], idLiteral := [], idLocation := false, stateName := [115],
    hasContent := false, content := none, params := [], delayMs := 0, type := [] }
example : (match execSend [mkS12 1] 0 (mkS12 1) (sp12 (pfxSession ++ [57])) with
    | .done w' _ ok => (ok, (lookup w' 1).map (fun s => s.intQ.map (·.name)))
    | _ => (true, none)) = (false, some [errComm, errExec]) := by decide
example : (match execSend [mkS12 1] 0 (mkS12 1) (sp12 tParent) with
    | .done w' _ ok => (ok, (lookup w' 1).map (fun s => s.intQ.map (·.name)))
    | _ => (true, none)) = (false, some [errComm, errExec]) := by decide
example : (match execSend [mkS12 1] 0 (mkS12 1) (sp12 [33, 33]) with
    | .done w' _ ok => (ok, (lookup w' 1).map (fun s => s.intQ.map (·.name)))
    | _ => (true, none)) = (false, some [errExec, errExec]) := by decide

end Rfsm.Route

namespace Rfsm.Interp
open Rfsm.Descriptor (Str)
variable {σ : Type}

/-- C12, interpreter level: whatever the session's state — configuration, history, queues, data,
    children — the platform cancel event stops it and leaves the configuration as it is (`C07_cancel`
    has history and queues), and a stopped session takes no further step of either loop -/
def C12_cancel_full : Prop :=
  ∀ (σ : Type) (env : Env σ) (d : Doc) (c : Str) (m f : Nat) (s : Sess σ) (e : Event) (feed : List (List Event)),
    e.name = cancelName →
      (handleExternal env d s e).running = false ∧ (handleExternal env d s e).cfg = s.cfg ∧
      macroLoop env d (f + 1) (handleExternal env d s e) = some (handleExternal env d s e) ∧
      mainLoop env d c m (f + 1) (handleExternal env d s e) feed = some (handleExternal env d s e, false)

theorem C12_cancel : C12_cancel_full := by
  intro σ env d c m f s e feed hc
  have h := C07_cancel env d s e hc
  have h2 := C07_stopped_processes_nothing env d c m f (handleExternal env d s e) feed h.1
  exact ⟨h.1, h.2.1, h2.1, h2.2⟩
#assert_axioms C12_cancel

/-- C12, executable-content level, error-event clause for `<script>` / `<log>`: an erroring
    element places `error.execution` on the internal queue (for every data model; since the `fix:`
    commit for P11 — before it the clause was false for data models that report errors quietly) -/
def C12_content_full : Prop :=
  ∀ (σ : Type) (ops : DMOps σ) (rs : Regions) (cfg : List Nat) (caller : Option Str) (f : Nat) (l e : Str) (x : XS σ),
    (ops.exec x.dm cfg e).val = none →
      errorExecution ∈ (execItem ops rs cfg caller (f + 1) (.expr e) x).1.raised ∧
      errorExecution ∈ (execItem ops rs cfg caller (f + 1) (.log l e) x).1.raised

theorem C12_content : C12_content_full := by
  intro σ ops rs cfg caller f l e x herr
  have h := C08_script_error ops rs cfg caller f l e x herr
  rw [h.1, h.2.2.1]
  simp
#assert_axioms C12_content

end Rfsm.Interp

namespace Rfsm

/-- C12 at full strength: the four levels of the header; the fourth, the expression engine, is C11 -/
def C12_full : Prop :=
  Route.C12_route_full ∧ Interp.C12_cancel_full ∧ Interp.C12_content_full ∧ Expr.C11_full

/-- the code still violates C12 at the expression-engine level: `a == b` on two cyclic values
blocks the session thread inside `DataArc::eq` (`Expr.C11_counterexample_equal_cyclic`).  The
former witnesses `5 % 0`, `a = a`, `a[a]` and `1 <` are repaired (`Expr.C11_regression_*`). -/
theorem C12_counterexample : ¬ C12_full := fun h => Expr.C11_counterexample h.2.2.2
#assert_axioms C12_counterexample

/-- C12, expression-engine level, what holds: no evaluation panics, every text parses to an
expression or a parse error (no livelock), and an evaluation ends with a value or an error unless
it blocks inside `DataArc::eq` on cyclic operands (or the model's heap fuel runs out) -/
def C12_expr_partial_stmt : Prop :=
  (∀ (D : Type) (ops : Expr.DoubleOps D) (text : Expr.Str) (st : Expr.St D), st.held = [] →
    (∀ s, (Expr.execute ops text st).2 ≠ .panic s) ∧
    ((Expr.execute ops text st).2.isValueOrError = true ∨
      (Expr.execute ops text st).2 = .deadlock .equal ∨ (Expr.execute ops text st).2 = .fuelOut)) ∧
  (∀ text : Expr.Str, (∃ e, Expr.parse text = .ok e) ∨ (∃ e, Expr.parse text = .err e))

/-- what is proved: no panic and exact error reporting at the `<send>` / event-I/O-processor
level, the cancel event is honoured in every state, erroring content raises `error.execution`,
and the expression engine neither panics nor spins.
Missing for `C12_full`: `Expr.C11_full`, false because of `==` on cyclic values. -/
theorem C12_partial :
    Route.C12_route_full ∧ Interp.C12_cancel_full ∧ Interp.C12_content_full ∧ C12_expr_partial_stmt :=
  ⟨Route.C12_route, Interp.C12_cancel, Interp.C12_content,
   fun _ ops text st h => ⟨Expr.C11_execute_no_panic ops text st h, (Expr.C11_partial ops text st h).1⟩,
   Expr.C11_parse_total⟩
#assert_axioms C12_partial

end Rfsm
