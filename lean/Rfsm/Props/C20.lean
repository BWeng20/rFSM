import Rfsm.Audit
import Rfsm.Proofs.HttpLemmas
import Rfsm.Proofs.HttpRoute
/-!
# C20 — The BasicHTTP processor turns each valid POST into exactly one event

Model: `Rfsm.Http` (bytes).  `handlePost t sid fields` is what `rocket_receive_event` does with a
request whose url-encoded body decodes to `fields` (the `Form<RawFields>` guard keeps every field
with its verbatim name, in body order; then the route body); `formEncode`/`formDecode` are the
serializer of the `url` crate used by `ureq::send_form` and rocket's form parser; `sendForm` is
`BasicHTTPEventIOProcessor::send`.

The statement has three clauses (DESIGN.md §4 C20):
 (a) a POST naming a session of the table and carrying `_scxmleventname=N` is answered 200 and puts
     exactly one event named `N` on exactly that session's queue, with `_event.data` = the other
     fields (or `_content`); otherwise an error status and no enqueue anywhere;
 (b) decode ∘ encode = id on every list of pairs of byte strings;
 (c) what `send` emits, read back by the receiving route, is an event with the same name and the
     textual form of each parameter.

`C20_full` (every field name is just a name) is proved: `theorem C20`.  Before the repair of finding
C20-F1 the crate did not satisfy it: rocket read form field NAMES structurally (`a.b`, `a[b]`, `k:x`, `x:y`,
empty first key).  The inputs that showed it are kept as regression theorems `C20_regression_*` (and in the
harness corpus): they deliver the event.
-/
namespace Rfsm.Http

/-- `_event.data` the statement promises for an event sent with these params / content -/
def outData (e : OutEvent) : EvData :=
  match e.params with
  | some (p :: ps) => .map ((p :: ps).map (fun q => (q.1, dataText q.2)))
  | _ => match e.content with
    | some c => .text (dataText c)
    | none => .null

/-- no `<param>` uses one of the two names the protocol reserves -/
def noReservedParam (e : OutEvent) : Bool :=
  match e.params with
  | some ps => ps.all (fun p => p.1 != scxmlEventName && p.1 != scxmlContent)
  | none => true

/-- clause (a) for requests whose fields satisfy `ok`, an extra condition on the field names; `C20_full` takes
    none (`True`) -/
def C20_receive (ok : List (Bytes × Bytes) → Prop) : Prop :=
  ∀ (t : Table) (sid : Nat) (fields : List (Bytes × Bytes)),
    (sidsOf t).Nodup → keysDistinct fields = true → ok fields →
    match lookup t sid, specEvent fields with
    | some _, some (n, d) =>
      ∃ ev, handlePost t sid fields = (200, enqueue t sid ev) ∧ ev.name = n ∧ eventData ev = d ∧
        queueOf (enqueue t sid ev) sid = queueOf t sid ++ [ev] ∧
        (∀ s', s' ≠ sid → queueOf (enqueue t sid ev) s' = queueOf t s') ∧
        totalQueued (enqueue t sid ev) = totalQueued t + 1
    | _, _ => ∃ st, 400 ≤ st ∧ handlePost t sid fields = (st, t)

def C20_codec : Prop := ∀ kvs : List (Bytes × Bytes), formDecode (formEncode kvs) = kvs

/-- clause (c) for events whose form satisfies `ok` -/
def C20_roundtrip (ok : List (Bytes × Bytes) → Prop) : Prop :=
  ∀ (t : Table) (sid : Nat) (e : OutEvent),
    (sidsOf t).Nodup → (lookup t sid).isSome = true →
    keysDistinct (sendForm e) = true → noReservedParam e = true → ok (sendForm e) →
    ∃ ev, handlePost t sid (formDecode (sendBody e)) = (200, enqueue t sid ev) ∧
      ev.name = e.name ∧ eventData ev = outData e

/-- The property at full strength: every field name is just a name. -/
def C20_full : Prop :=
  C20_receive (fun _ => True) ∧ C20_codec ∧ C20_roundtrip (fun _ => True)

/-! ## (b) the codec, for all byte strings -/

theorem C20_codec_roundtrip : C20_codec := formDecode_formEncode
#assert_axioms C20_codec_roundtrip

/-- per component: `url_decode_lossy ∘ byte_serialize = id` on every byte string -/
theorem C20_component_roundtrip (s : Bytes) : urlDecode (encStr s) = s := urlDecode_encStr s
#assert_axioms C20_component_roundtrip

/-- an encoded component never contains `&` or `=`: the framing is unambiguous -/
theorem C20_no_separator_in_component (s : Bytes) : ∀ c ∈ encStr s, c ≠ 38 ∧ c ≠ 61 :=
  encStr_noSep s
#assert_axioms C20_no_separator_in_component

/-! ## (a) the receiving route -/

theorem C20_receive_full : C20_receive (fun _ => True) := by
  intro t sid fields hn hd _
  -- with distinct names the promised event is the one the route builds (`routeEvent_spec`)
  unfold handlePost
  rw [routeBody_eq, ← routeEvent_spec fields hd]
  cases hl : lookup t sid with
  | none => exact ⟨400, by omega, rfl⟩
  | some s =>
    cases routeEvent fields with
    | none => exact ⟨400, by omega, rfl⟩
    | some ev =>
      have hsome : (lookup t sid).isSome = true := by rw [hl]; rfl
      exact ⟨ev, rfl, rfl, rfl, queueOf_enqueue_same t sid ev hsome,
        fun s' hne => queueOf_enqueue_other t sid s' ev hne,
        totalQueued_enqueue t sid ev hn ((lookup_isSome_iff t sid).mp hsome)⟩
#assert_axioms C20_receive_full

/-- The route for EVERY request, duplicates included (outside the statement, which speaks of "the"
    event name and "the" remaining fields): the LAST `_scxmleventname` names the event, the LAST
    `_content` is its content, every other field is a parameter in body order (`eventData` then keeps
    the last value of a repeated parameter name, `mapOf`). -/
theorem C20_receive_all (t : Table) (sid : Nat) (fields : List (Bytes × Bytes)) :
    handlePost t sid fields =
      match lookup t sid, lastValue fields scxmlEventName with
      | some _, some n =>
        (200, enqueue t sid
          { name := n,
            params := if (otherFields fields).isEmpty then none else some (otherFields fields),
            content := lastValue fields scxmlContent })
      | _, _ => (400, t) := by
  unfold handlePost
  rw [routeBody_eq, routeEvent_eq]
  cases lookup t sid <;> cases lastValue fields scxmlEventName <;> rfl
#assert_axioms C20_receive_all

/-- For EVERY request (any field names, duplicates, any table): either an error status and the
    table is unchanged, or status 200 and exactly one `enqueue` on the addressed, existing session.
    One request is one atomic step. -/
theorem C20_atomic (t : Table) (sid : Nat) (fields : List (Bytes × Bytes)) :
    (∃ st, 400 ≤ st ∧ handlePost t sid fields = (st, t)) ∨
    (∃ ev, handlePost t sid fields = (200, enqueue t sid ev) ∧ (lookup t sid).isSome = true) := by
  rw [C20_receive_all]
  cases hl : lookup t sid with
  | none => exact Or.inl ⟨400, by omega, rfl⟩
  | some s =>
    cases lastValue fields scxmlEventName with
    | none => exact Or.inl ⟨400, by omega, rfl⟩
    | some n => exact Or.inr ⟨_, rfl, rfl⟩
#assert_axioms C20_atomic

/-- the same for the whole request including the path segment -/
theorem C20_atomic_request (t : Table) (seg body : Bytes) :
    (∃ st, 400 ≤ st ∧ receive t seg body = (st, t)) ∨
    (∃ sid ev, receive t seg body = (200, enqueue t sid ev) ∧ (lookup t sid).isSome = true) := by
  unfold receive
  cases parseSid (pctDecode seg) with
  | none => exact Or.inl ⟨422, by omega, rfl⟩
  | some sid =>
    rcases C20_atomic t sid (formDecode body) with h | ⟨ev, h1, h2⟩
    · exact Or.inl h
    · exact Or.inr ⟨sid, ev, h1, h2⟩
#assert_axioms C20_atomic_request

/-! ## concurrent posts: a sequence of atomic enqueues -/

/-- After any sequence of requests — i.e. under any interleaving of concurrent posters, since each
    request is one atomic enqueue under the executor lock — the queue of every session is its old
    queue followed by exactly the events of the accepted requests addressed to it, in the order the
    requests were served.  (This makes every poster a producer in the sense of C13's FIFO/merge
    theorem: per poster order is preserved because the list order is.) -/
theorem C20_concurrent (t : Table) (reqs : List (Bytes × Bytes)) (s : Nat) :
    queueOf (receiveAll t reqs) s =
      queueOf t s ++ (reqs.filterMap (eventOf t)).filterMap
        (fun p => if p.1 = s then some p.2 else none) := by
  induction reqs generalizing t with
  | nil => simp [receiveAll]
  | cons r reqs ih =>
    have hstep : receiveAll t (r :: reqs) = receiveAll (receive t r.1 r.2).2 reqs := rfl
    rw [hstep, receive_eventOf]
    cases he : eventOf t r with
    | none => simp only [List.filterMap_cons, he]; exact ih t
    | some p =>
      obtain ⟨sid, ev⟩ := p
      simp only [List.filterMap_cons, he]
      -- the later requests find the same session ids, so they contribute the same events
      rw [ih (enqueue t sid ev),
        show eventOf (enqueue t sid ev) = eventOf t from funext (eventOf_congr _ _ (enqueue_sids t sid ev))]
      by_cases hs : sid = s
      · subst hs
        rw [queueOf_enqueue_same t sid ev (eventOf_some he)]
        simp
      · rw [queueOf_enqueue_other t sid s ev (fun h => hs h.symm)]
        simp [hs]
#assert_axioms C20_concurrent

/-! ## (c) send → receive -/

/-- what the statement promises for the form `send` emits -/
theorem specEvent_sendForm (e : OutEvent) (hr : noReservedParam e = true) :
    specEvent (sendForm e) = some (e.name, outData e) := by
  obtain ⟨n, ps, c⟩ := e
  have h := specEvent_sent n ((ps.getD []).map fun p => (p.1, dataText p.2)) (c.map dataText) fun q hq => by
    obtain ⟨p, hp, rfl⟩ := List.mem_map.1 hq
    cases ps with
    | none => cases hp
    | some l => simpa using List.all_eq_true.1 hr p hp
  -- `sendForm` lays the form out like this and `outData` is this value: by computation, once it is known
  -- which of `params` and `content` are there
  cases ps with
  | none => cases c <;> exact h
  | some l => cases l <;> cases c <;> exact h
#assert_axioms specEvent_sendForm

theorem C20_roundtrip_full : C20_roundtrip (fun _ => True) := by
  intro t sid e hn hl hd hr _
  rw [sendBody, formDecode_formEncode]
  have h := C20_receive_full t sid (sendForm e) hn hd trivial
  rw [specEvent_sendForm e hr] at h
  cases hlk : lookup t sid with
  | none => simp [hlk] at hl
  | some s =>
    simp only [hlk] at h
    obtain ⟨ev, h1, h2, h3, _⟩ := h
    exact ⟨ev, h1, h2, h3⟩
#assert_axioms C20_roundtrip_full

/-- the path segment of the location a session publishes (`…/scxml/<decimal id>`) names it -/
theorem C20_location_names_session (sid : Nat) (h : sid < 4294967296) :
    parseSid (pctDecode (decimal sid)) = some sid ∧
    locationOf sid = asciiBytes "http://localhost:5555/scxml/" ++ decimal sid :=
  ⟨parseSid_decimal sid h, rfl⟩
#assert_axioms C20_location_names_session

/-- (c) at the level of the whole request: the body `send` emits, posted to the path of the
    published location, delivers `e`'s name and the text of each parameter -/
theorem C20_roundtrip_request (t : Table) (sid : Nat) (e : OutEvent)
    (hn : (sidsOf t).Nodup) (hl : (lookup t sid).isSome = true) (h32 : sid < 4294967296)
    (hd : keysDistinct (sendForm e) = true) (hr : noReservedParam e = true) :
    ∃ ev, receive t (decimal sid) (sendBody e) = (200, enqueue t sid ev) ∧
      ev.name = e.name ∧ eventData ev = outData e := by
  unfold receive
  rw [parseSid_decimal sid h32]
  exact C20_roundtrip_full t sid e hn hl hd hr trivial
#assert_axioms C20_roundtrip_request

theorem C20 : C20_full :=
  ⟨C20_receive_full, C20_codec_roundtrip, C20_roundtrip_full⟩
#assert_axioms C20

/-! ## regression: the witnesses of the repaired finding C20-F1 (also in the harness corpus)

Under the old code (form = `HashMap<String,String>`, names read as form paths by rocket) these inputs
gave 422 / a truncated key / a smuggled event name; the first one contradicts clause (a). -/

def tbl1 : Table := [{ sid := 1, queue := [] }]
/-- `ev` -/
def bEv : Bytes := [101, 118]
/-- `x:y` -/
def bXY : Bytes := [120, 58, 121]
/-- `a.b` -/
def bAB : Bytes := [97, 46, 98]
/-- `1` -/
def b1 : Bytes := [49]

/-- `_scxmleventname=ev&x:y=1` to a live session (was: 422, nothing enqueued) -/
theorem C20_regression_colon :
    handlePost tbl1 1 [(scxmlEventName, bEv), (bXY, b1)] =
      (200, [{ sid := 1, queue := [{ name := bEv, params := some [(bXY, b1)], content := none }] }]) := by
  decide
#assert_axioms C20_regression_colon

/-- `_scxmleventname=ev&a.b=1` (was: delivered under the key `a`) -/
theorem C20_regression_dot :
    handlePost tbl1 1 [(scxmlEventName, bEv), (bAB, b1)] =
      (200, [{ sid := 1, queue := [{ name := bEv, params := some [(bAB, b1)], content := none }] }]) := by
  decide
#assert_axioms C20_regression_dot

/-- `_scxmleventname=ev&=1`: the empty name is a parameter name (was: 422) -/
theorem C20_regression_emptykey :
    handlePost tbl1 1 [(scxmlEventName, bEv), ([], b1)] =
      (200, [{ sid := 1, queue := [{ name := bEv, params := some [([], b1)], content := none }] }]) := by
  decide
#assert_axioms C20_regression_emptykey

/-- `k:n=_scxmleventname&v:n=ev` does not name an event any more (was: 200, event `ev`) -/
theorem C20_regression_smuggled :
    handlePost tbl1 1 [([107, 58, 110], scxmlEventName), ([118, 58, 110], bEv)] = (400, tbl1) := by
  decide
#assert_axioms C20_regression_smuggled

/-- `<send>` with `<param name="x:y" expr="true"/>` arrives with that parameter and the text `true`
    (was: lost, 422) -/
theorem C20_regression_send_colon :
    handlePost tbl1 1 (formDecode (sendBody { name := bEv, params := some [(bXY, .bool true)], content := none }))
      = (200, [{ sid := 1, queue := [{ name := bEv, params := some [(bXY, [116, 114, 117, 101])], content := none }] }]) := by
  rw [sendBody, formDecode_formEncode]
  decide
#assert_axioms C20_regression_send_colon

/-! ## non-vacuity: concrete instances of the hypotheses -/

/-- `_scxmleventname=ev&p1=abc&p2=123` on a table with two sessions -/
example :
    let t : Table := [{ sid := 1, queue := [] }, { sid := 2, queue := [] }]
    let fields : List (Bytes × Bytes) := [(scxmlEventName, bEv), ([112, 49], [97, 98, 99]), ([112, 50], [49, 50, 51])]
    (sidsOf t).Nodup ∧ keysDistinct fields = true ∧
      handlePost t 2 fields = (200, [{ sid := 1, queue := [] },
        { sid := 2, queue := [{ name := bEv, params := some [([112, 49], [97, 98, 99]), ([112, 50], [49, 50, 51])],
                                content := none }] }]) := by
  decide

/-- an event `l` with a string and a boolean parameter (p1='abc', p2=true) satisfies the hypotheses of clause (c);
    `outData` holds the text of each -/
example :
    let e : OutEvent :=
      { name := [108], params := some [([112, 49], .str [97, 98, 99]), ([112, 50], .bool true)], content := none }
    keysDistinct (sendForm e) = true ∧ noReservedParam e = true ∧
      outData e = .map [([112, 49], [97, 98, 99]), ([112, 50], [116, 114, 117, 101])] := by
  decide

/-- structural-looking names satisfy the hypotheses of `C20` like any other (`a.b`, `x:y`, `[]`, empty) -/
example :
    let fields : List (Bytes × Bytes) := [(bAB, b1), (scxmlEventName, bEv), (bXY, b1), ([91, 93], b1), ([], b1)]
    keysDistinct fields = true ∧
      specEvent fields = some (bEv, .map [(bAB, b1), (bXY, b1), ([91, 93], b1), ([], b1)]) := by
  decide

/-- a value that needs every kind of escaping survives the codec (test, by evaluation) -/
example : formDecode (formEncode [([97, 32, 43], [38, 61, 37, 195, 169, 0, 255]), ([], [])]) =
    [([97, 32, 43], [38, 61, 37, 195, 169, 0, 255]), ([], [])] := by decide

end Rfsm.Http
