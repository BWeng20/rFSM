import Rfsm.Audit
import Rfsm.Proofs.LocksLemmas
import Rfsm.Proofs.LockTableLemmas
import Rfsm.Gen.LockSites
/-!
# C17 — Concurrent sessions never deadlock on the platform's internal locks

Model: `Rfsm.Locks` (`Model/Locks.lean`): threads are programs over `acquire l | release l` on
non-reentrant locks, the scheduler is explicit, `Deadlock s` is a non-empty set of threads each
blocked on a lock held by a member of the set (one thread re-locking its own lock included).

**General part** (no reference to the code; unbounded in the number of threads, locks, program
lengths and schedules): a strict order on the locks that every thread follows, locks private to a thread
excepted, excludes deadlock in every reachable state (`order_no_deadlock`; `ranked_no_deadlock` for a rank
function into `Nat`), and under a rank balanced programs can always step and finish (`ranked_progress`,
`ranked_completes`).

**Instance part**: `Rfsm.Gen.LockSites.edges` is the held-while-acquiring table of the code,
regenerated from `/repo/src` on every run.  `C17_full` says that every system of threads whose
acquisitions are instances of the table's edges is deadlock-free.

State of the code: the repairs `1c1d11d` (session start / `FsmExecutor::shutdown`) and `baeeed4` (`Fsm::invoke`)
removed the lock-order cycles `E → P → E`, `E → P → G → E` and `G → P → G` (`C17_repaired_edges_absent`; the
unrepaired programs deadlock in the model and no longer conform to the table); `54484ea` (`<send>` target) removed
an instance of `D → D` (`<send eventexpr="v" targetexpr="v"/>` locked the cell of `v` twice).
The **only** cycle left is the self-loop `D → D` (`C17_all_cycles`): a data cell locked while a data cell that may
be the same one is held.  Its instances inside rfsm-expressions — `a[a]`, `a = a`, `a ?= a`, `a == [a]`, cf. C11 —
are repaired: those lock sites hold no other cell any more; the edge stays in the table through the calling
contexts in which the *caller* of an evaluation holds a cell, and `DataArc::eq` still locks both sides while it
descends.  `C17_full` is therefore still **false** (`C17_counterexample_D_D`).  Proved for the code as it is:
`C17_modulo_relock` (the whole table, for systems in which no thread requests a lock it is holding) and
`C17_partial` (the table minus the edge `D → D any`, no side condition on the programs).
-/
namespace Rfsm.Locks

variable {L : Type} [DecidableEq L]

/-! ## General theorems -/

/-- **Lock-order theorem.**  Let `lt` be a strict order on the locks and `pv` an assignment of
private locks to threads.  If every thread only acquires a lock `l` while each lock `h` it holds is
`lt`-below `l` — or private to the thread and different from `l` — and no thread touches another
thread's private locks, then no reachable state is a deadlock (self-deadlock included). -/
theorem order_no_deadlock (lt : L → L → Prop) (hirr : ∀ a, ¬ lt a a)
    (htr : ∀ a b c, lt a b → lt b c → lt a c) (pv : L → Option Nat)
    (progs : List (List (Op L)))
    (hord : ∀ (u : Nat) (p : List (Op L)), progs[u]? = some p → OrderedP lt pv u [] p)
    (s : Sys L) (hr : Reach (start progs) s) : ¬ Deadlock s :=
  (order_live hirr htr hord hr).1
#assert_axioms order_no_deadlock

/-- If there is a rank function such that every thread only ever
acquires locks of rank strictly greater than all locks it currently holds, no reachable state is a
deadlock: along a wait cycle the awaited ranks would strictly increase. -/
theorem ranked_no_deadlock (rank : L → Nat) (progs : List (List (Op L)))
    (hord : ∀ p ∈ progs, Ordered (fun a b => rank a < rank b) [] p)
    (s : Sys L) (hr : Reach (start progs) s) : ¬ Deadlock s :=
  (ranked_live rank hord hr).1
#assert_axioms ranked_no_deadlock

/-- **Progress.**  Under the rank discipline, if moreover every program releases what it acquires,
then in every reachable state with an unfinished thread some thread can execute its next step. -/
theorem ranked_progress (rank : L → Nat) (progs : List (List (Op L)))
    (hord : ∀ p ∈ progs, Ordered (fun a b => rank a < rank b) [] p)
    (hbal : ∀ p ∈ progs, Balanced [] p)
    (s : Sys L) (hr : Reach (start progs) s) (hun : unfinished s) :
    ∃ t s', step s t = some s' :=
  ((ranked_live rank hord hr).2 hbal).1 hun
#assert_axioms ranked_progress

/-- the only reachable states in which no thread can move are those where every thread is done -/
theorem ranked_stuck_only_when_done (rank : L → Nat) (progs : List (List (Op L)))
    (hord : ∀ p ∈ progs, Ordered (fun a b => rank a < rank b) [] p)
    (hbal : ∀ p ∈ progs, Balanced [] p)
    (s : Sys L) (hr : Reach (start progs) s) (hstuck : ∀ t, step s t = none) :
    allFinished s = true := by
  cases hf : allFinished s with
  | true => rfl
  | false =>
    obtain ⟨t, s', h⟩ := ranked_progress rank progs hord hbal s hr (not_allFinished_unfinished hf)
    rw [hstuck t] at h
    cases h
#assert_axioms ranked_stuck_only_when_done

/-- **Completion.**  Under the same hypotheses every reachable state can be run to the end: there is
a schedule after which all threads have finished (the proof picks any enabled thread, `todo s` times). -/
theorem ranked_completes (rank : L → Nat) (progs : List (List (Op L)))
    (hord : ∀ p ∈ progs, Ordered (fun a b => rank a < rank b) [] p)
    (hbal : ∀ p ∈ progs, Balanced [] p)
    (s : Sys L) (hr : Reach (start progs) s) :
    ∃ sched s', exec s sched = some s' ∧ allFinished s' = true :=
  ((ranked_live rank hord hr).2 hbal).2
#assert_axioms ranked_completes

/-- sanity of the machine: in every state reachable from a clean start a lock has at most one
holder (locks are mutually exclusive and non-reentrant) -/
theorem reach_mutex (progs : List (List (Op L))) (s : Sys L) (hr : Reach (start progs) s) :
    Mutex s := by
  induction hr with
  | refl =>
    intro u v thu thv l hu _ hlu _
    obtain ⟨p, _, rfl⟩ := start_getElem? hu
    cases hlu
  | step _ hstep ih => exact step_mutex ih hstep
#assert_axioms reach_mutex

/-- a state recognised by the decidable checker is a deadlock -/
theorem deadlockedSet_is_deadlock (s : Sys L) (S : List Nat) (h : deadlockedSet s S = true) :
    Deadlock s := by
  simp only [deadlockedSet, Bool.and_eq_true, Bool.not_eq_true', List.all_eq_true] at h
  obtain ⟨hne, hall⟩ := h
  refine ⟨S, by intro e; subst e; simp at hne, ?_⟩
  intro t ht
  have := hall t ht
  split at this
  · rename_i l hl
    refine ⟨l, hl, ?_⟩
    rw [List.any_eq_true] at this
    obtain ⟨u, hu, hx⟩ := this
    split at hx
    · rename_i th hth
      exact ⟨u, hu, th, hth, by simpa using hx⟩
    · simp at hx
  · simp at this
#assert_axioms deadlockedSet_is_deadlock

/-! non-vacuity of the general theorems: two threads taking locks 1 then 2 (rank = identity) -/
example : ∀ p ∈ [[Op.acquire 1, .acquire 2, .release 2, .release 1],
                 [Op.acquire 1, .acquire 2, .release 1, .release 2]],
    Ordered (fun a b : Nat => id a < id b) [] p ∧ Balanced [] p := by
  intro p hp
  simp only [List.mem_cons, List.not_mem_nil, or_false] at hp
  rcases hp with rfl | rfl <;> simp [Ordered, Balanced]

/-- … and the classical inversion (1 then 2 against 2 then 1) deadlocks under the schedule 0,1: the
hypothesis of the theorems is not idle.  (Test, by `decide`.) -/
example : deadlockedSet
    ((exec (start [[Op.acquire 1, .acquire 2], [Op.acquire 2, .acquire 1]]) [0, 1]).getD []) [0, 1]
      = true := by
  decide

/-- self-deadlock is a deadlock of the model (Test, by `decide`.) -/
example : deadlockedSet ((exec (start [[Op.acquire 7, .acquire 7]]) [0]).getD []) [0] = true := by
  decide

/-! ## Instance: the lock-site table of the code -/

open Rfsm.Gen.LockSites

/-- **The property at full strength**: every system of session, timer and host threads whose
held-while-acquiring pairs are instances of the edges of the code's lock-site table (private data
cells being private) never reaches a deadlock, under any schedule. -/
def C17_full : Prop :=
  ∀ (pv : Lk → Option Nat) (progs : List (List (Op Lk))),
    systemConforms edges pv progs = true →
    ∀ s, Reach (start progs) s → ¬ Deadlock s

/-- For *any* table: admitting a class rank makes every conforming system deadlock-free. -/
theorem C17_ranked_table_deadlock_free (table : List Edge) (cr : Cls → Nat)
    (hadm : admits cr table = true) (pv : Lk → Option Nat) (progs : List (List (Op Lk)))
    (hconf : systemConforms table pv progs = true) (s : Sys Lk) (hr : Reach (start progs) s) :
    ¬ Deadlock s :=
  (table_live hconf (fun e he => Or.inl (List.all_eq_true.1 hadm e he)) hr).1
#assert_axioms C17_ranked_table_deadlock_free

/-- … and, when the programs release what they acquire, always able to make a step and to finish -/
theorem C17_ranked_table_progress (table : List Edge) (cr : Cls → Nat)
    (hadm : admits cr table = true) (pv : Lk → Option Nat) (progs : List (List (Op Lk)))
    (hconf : systemConforms table pv progs = true) (hbal : systemBalanced progs = true)
    (s : Sys Lk) (hr : Reach (start progs) s) :
    (unfinished s → ∃ t s', step s t = some s') ∧
    ∃ sched s', exec s sched = some s' ∧ allFinished s' = true :=
  (table_live hconf (fun e he => Or.inl (List.all_eq_true.1 hadm e he)) hr).2 hbal
#assert_axioms C17_ranked_table_progress

/-! ### the code as it is now: the only cycle left is `D → D` -/

/-- the edges behind the repaired cycles: a processor locked under the executor state (`E → P`, was
`start_fsm_with_data_and_finish_mode#5`, `FsmExecutor::shutdown#1`), the child start under the
parent's global data (`G → Gn`, `G → P`, was `Fsm::invoke#3/#5`) -/
def repairedOffending (e : Edge) : Bool :=
  (e.held == .E && e.acq == .P) || (e.held == .G && (e.acq == .Gn || e.acq == .P))

/-- none of them is in the table generated from the current source (regression: re-introducing one
of these held-while-acquiring pairs makes this theorem — and the check — fail) -/
theorem C17_repaired_edges_absent : edges.all (fun e => !repairedOffending e) = true := by decide
#assert_axioms C17_repaired_edges_absent

/-- the executor-state / processor inversion is gone -/
theorem C17_no_cycle_E_P : classCycle edges [.E, .P] = false := by decide
#assert_axioms C17_no_cycle_E_P

/-- the global-data / processor inversion is gone -/
theorem C17_no_cycle_G_P : classCycle edges [.G, .P] = false := by decide
#assert_axioms C17_no_cycle_G_P

/-- … and so is the three-lock cycle of DESIGN §5 P16 -/
theorem C17_no_cycle_E_P_G : classCycle edges [.E, .P, .G] = false := by decide
#assert_axioms C17_no_cycle_E_P_G

/-- a data cell is locked while a data cell that may be the same one is held -/
theorem C17_cycle_D_D : classCycle edges [.D] = true := by decide
#assert_axioms C17_cycle_D_D

/-- because of that self-loop the table admits no rank as it stands -/
theorem C17_cycle : ∀ cr : Cls → Nat, admits cr edges = false :=
  classCycle_not_admits C17_cycle_D_D
#assert_axioms C17_cycle

/-- the self-loop is the only cycle of the table (simple cycles, each found once) -/
theorem C17_all_cycles : allCycles edges = [[.D]] := by decide
#assert_axioms C17_all_cycles

/-- … also as reported by the driver (`locks table`, `locks cycles`) -/
theorem C17_minimal_cycles : (minimalCycles edges).map showCycle = ["D>D"] := by
  rw [minimalCycles, C17_all_cycles]
  decide
#assert_axioms C17_minimal_cycles

/-! ### abstract programs of the platform's lock users -/

def lkE : Lk := ⟨.E, 0⟩
def lkP : Lk := ⟨.P, 0⟩
def lkG (sid : Nat) : Lk := ⟨.G, sid⟩
def lkGn (sid : Nat) : Lk := ⟨.Gn, sid⟩
def lkD (cell : Nat) : Lk := ⟨.D, cell⟩

/-- what `start_fsm_with_data_and_finish_mode` does for a new session `sid` (fsm.rs:100–141): the
processor list is copied out of the executor state, `E` is released, then the processors are locked
under the new session's global data only -/
def progStart (sid : Nat) : List (Op Lk) :=
  [.acquire (lkGn sid), .release (lkGn sid),          -- source
   .acquire lkE, .release lkE,                        -- sessions.insert, options
   .acquire lkE, .release lkE,                        -- processors.clone()
   .acquire (lkGn sid), .acquire lkP, .release lkP, .release (lkGn sid)]

/-- what a cross-session `<send>` (or `cancelInvoke`, `returnDoneEvent`) of session `sid` does:
`Datamodel::send` → `ScxmlEventIOProcessor::send` → `FsmExecutor::get_session_sender` -/
def progSend (sid : Nat) : List (Op Lk) :=
  [.acquire (lkG sid), .release (lkG sid),            -- get_io_processor
   .acquire lkP, .acquire (lkG sid), .acquire lkE, .release lkE, .release (lkG sid), .release lkP]

/-- the delayed-send closure on the timer thread of session `sid` (executable_content.rs:671–678) -/
def progTimer (sid : Nat) : List (Op Lk) :=
  [.acquire (lkG sid), .release (lkG sid),            -- delayed_send.remove
   .acquire lkP, .acquire (lkG sid), .acquire lkE, .release lkE, .release (lkG sid), .release lkP]

/-- `Fsm::invoke` of session `sid` starting child `child` (fsm.rs:3143–3203): session id, actions and
executor are copied out of `G(sid)`, which is released before the child is started and taken again
to record the child -/
def progInvoke (sid child : Nat) : List (Op Lk) :=
  [.acquire (lkG sid), .release (lkG sid)] ++ progStart child ++
  [.acquire (lkG sid), .release (lkG sid)]

/-- the start before repair `1c1d11d`: the processors were locked while `E` (and `Gn`) was held -/
def progStartOld (sid : Nat) : List (Op Lk) :=
  [.acquire (lkGn sid), .release (lkGn sid),
   .acquire lkE, .release lkE,
   .acquire (lkGn sid), .acquire lkE, .acquire lkP, .release lkP, .release lkE, .release (lkGn sid)]

/-- the invoke before repair `baeeed4`: `G(sid)` was held across the child start -/
def progInvokeOld (sid child : Nat) : List (Op Lk) :=
  [.acquire (lkG sid)] ++ progStart child ++ [.release (lkG sid)]

def noPriv : Lk → Option Nat := fun _ => none
def cellsOf0 : Lk → Option Nat := fun l => if l.cls = .D then some 0 else none

/-! ### the repaired cycles: what the old shapes did, and that the table rejects them now -/

/-- host starts session 2 (old shape) while session 1 sends to another session -/
def cexEPold : List (List (Op Lk)) := [progStartOld 2, progSend 1]

/-- session 1 invokes child 2 (old shape) while a delayed send of session 1 fires -/
def cexGPold : List (List (Op Lk)) := [progInvokeOld 1 2, progTimer 1]

/-- schedule: the starter takes `E` (steps 1–6 of thread 0), the sender takes `P` and `G(1)`
(steps 1–4 of thread 1); now 0 waits for `P`, 1 waits for `E` -/
def schedEP : List Nat := [0, 0, 0, 0, 0, 0, 1, 1, 1, 1]

/-- schedule: the timer takes `G(1)` and releases it, the parent takes `G(1)`, the timer takes `P`
and waits for `G(1)`; the parent goes on to the child start and waits for `P` -/
def schedGP : List Nat := [1, 1, 0, 1, 0, 0, 0, 0, 0, 0, 0]

/-- the old start did deadlock against a sender (model run; this is what `1c1d11d` removed) -/
theorem C17_old_start_deadlocks :
    ∃ s, exec (start cexEPold) schedEP = some s ∧ deadlockedSet s [0, 1] = true :=
  (Option.any_eq_true _ _).1 (by decide)
#assert_axioms C17_old_start_deadlocks

/-- the old invoke did deadlock against the session's own timer (what `baeeed4` removed) -/
theorem C17_old_invoke_deadlocks :
    ∃ s, exec (start cexGPold) schedGP = some s ∧ deadlockedSet s [0, 1] = true :=
  (Option.any_eq_true _ _).1 (by decide)
#assert_axioms C17_old_invoke_deadlocks

/-- the table of the current source does not allow the old start … -/
theorem C17_old_start_rejected : systemConforms edges noPriv cexEPold = false := by decide
#assert_axioms C17_old_start_rejected

/-- … nor the old invoke -/
theorem C17_old_invoke_rejected : systemConforms edges noPriv cexGPold = false := by decide
#assert_axioms C17_old_invoke_rejected

/-! ### the remaining counterexample: re-locking a data cell -/

/-- a data cell is held and the same cell is locked again: what the edge `D → D any` of the table
admits (an expression evaluated while its caller holds a cell of the session; `DataArc::eq` on
cyclic data).  The former instances `a[a]`, `a = a`, `a ?= a` inside expressions are repaired. -/
def cexDD : List (List (Op Lk)) := [[.acquire (lkD 5), .acquire (lkD 5), .release (lkD 5), .release (lkD 5)]]

theorem C17_cexDD_conforms : systemConforms edges cellsOf0 cexDD = true := by decide
#assert_axioms C17_cexDD_conforms

theorem C17_deadlock_schedule_D_D :
    ∃ s, exec (start cexDD) [0] = some s ∧ deadlockedSet s [0] = true :=
  (Option.any_eq_true _ _).1 (by decide)
#assert_axioms C17_deadlock_schedule_D_D

/-- **the code still violates C17 at full strength**: a single thread re-locking a data cell it
holds conforms to the table and is a deadlock (the thread never returns; everybody who later needs
the session's global data, which the thread holds during evaluation, waits for ever) -/
theorem C17_counterexample_D_D : ¬ C17_full := by
  intro h
  obtain ⟨s, hs, hd⟩ := C17_deadlock_schedule_D_D
  exact h cellsOf0 cexDD C17_cexDD_conforms s (exec_reach hs) (deadlockedSet_is_deadlock _ _ hd)
#assert_axioms C17_counterexample_D_D

/-! ### what does hold -/

/-- the one edge behind the remaining cycle: a data cell locked under a data cell that may be the
same (`D → D`, `any`) -/
def offending (e : Edge) : Bool := e.held == .D && e.acq == .D && e.rel == .any

def fixedEdges : List Edge := edges.filter fun e => !offending e

/-- exactly one edge is left out -/
theorem C17_one_offending_edge : (edges.filter offending).length = 1 := by decide
#assert_axioms C17_one_offending_edge

/-- the rank of the table: not-yet-shared session data first, then the processors, the session
data, and last the executor state, data cells, actions, tracer factory: `rankOf fixedEdges` (longest paths)
except at `TF`; `R`, `DF`, `TF` occur in no edge, so their rank does not matter -/
def fixedRank : Cls → Nat
  | .DF => 0 | .Gn => 0 | .Gi => 0 | .R => 0
  | .P => 1
  | .G => 2
  | .E => 3 | .D => 3 | .A => 3 | .TF => 3

theorem C17_fixed_ranked : admits fixedRank fixedEdges = true := by decide
#assert_axioms C17_fixed_ranked

/-- the rank search of the driver (`locks rank`) finds a rank for the reduced table too -/
theorem C17_fixed_hasRank : hasRank fixedEdges = true := by decide +kernel
#assert_axioms C17_fixed_hasRank

/-- the **whole** table is ranked by `fixedRank` up to re-locking of private locks: every edge is
rank-increasing, exempt, or has a held lock private to the acquiring thread -/
theorem C17_ranked_modulo_relock : admitsModRelock fixedRank edges = true := by decide
#assert_axioms C17_ranked_modulo_relock

/-- The code as it is now, whole table: every system of threads that
conforms to the lock-site table and in which no thread requests a lock it is holding is
deadlock-free under every schedule; if its programs are balanced it can always step and finish.
Missing for `C17_full`: the side condition — the code does contain re-locking of a held data cell
(`C17_counterexample_D_D`). -/
theorem C17_modulo_relock (pv : Lk → Option Nat) (progs : List (List (Op Lk)))
    (hconf : systemConforms edges pv progs = true) (hnr : systemNoRelock progs = true)
    (s : Sys Lk) (hr : Reach (start progs) s) :
    ¬ Deadlock s ∧
    (systemBalanced progs = true →
      (unfinished s → ∃ t s', step s t = some s') ∧
      ∃ sched s', exec s sched = some s' ∧ allFinished s' = true) :=
  table_live hconf
    (fun e he => (admitsModRelock_ok C17_ranked_modulo_relock e he).imp_right (⟨·, hnr⟩)) hr
#assert_axioms C17_modulo_relock

/-- a deadlock of a conforming system needs a program that re-locks a lock it holds -/
theorem C17_deadlock_needs_relock (pv : Lk → Option Nat) (progs : List (List (Op Lk)))
    (hconf : systemConforms edges pv progs = true) (s : Sys Lk) (hr : Reach (start progs) s)
    (hd : Deadlock s) : systemNoRelock progs = false := by
  cases hnr : systemNoRelock progs with
  | false => rfl
  | true => exact absurd hd (C17_modulo_relock pv progs hconf hnr s hr).1
#assert_axioms C17_deadlock_needs_relock

/-- Every system that conforms to the table *without the offending edge* is
deadlock-free under every schedule; if its programs are balanced it can always step and finish.
Missing for `C17_full`: the edge `D → D any` (re-locking of a data cell, e.g.
`ExpressionIndex::execute#1`, `ExpressionAssign::execute#1`) is in the code. -/
theorem C17_partial (pv : Lk → Option Nat) (progs : List (List (Op Lk)))
    (hconf : systemConforms fixedEdges pv progs = true) (s : Sys Lk)
    (hr : Reach (start progs) s) :
    ¬ Deadlock s ∧
    (systemBalanced progs = true →
      (unfinished s → ∃ t s', step s t = some s') ∧
      ∃ sched s', exec s sched = some s' ∧ allFinished s' = true) :=
  ⟨C17_ranked_table_deadlock_free fixedEdges _ C17_fixed_ranked pv progs hconf s hr,
   fun hbal => C17_ranked_table_progress fixedEdges _ C17_fixed_ranked pv progs hconf hbal s hr⟩
#assert_axioms C17_partial

/-- starts, invokes, cross-session sends and timers as the code does them now -/
def repairedScenario : List (List (Op Lk)) :=
  [progStart 3, progInvoke 1 2, progSend 1, progTimer 1, progSend 2]

/-- **the former deadlock scenarios cannot deadlock any more**: a host start, an invoke, the
invoking session's delayed send and cross-session sends, all at once, under every schedule — and
they can always be run to the end -/
theorem C17_repaired_scenarios_deadlock_free (s : Sys Lk) (hr : Reach (start repairedScenario) s) :
    ¬ Deadlock s ∧ ∃ sched s', exec s sched = some s' ∧ allFinished s' = true := by
  have h := C17_partial noPriv repairedScenario (by decide) s hr
  exact ⟨h.1, (h.2 (by decide)).2⟩
#assert_axioms C17_repaired_scenarios_deadlock_free

/-- non-vacuity of `C17_modulo_relock`: the same programs conform to the whole table, never
re-lock and are balanced; with a thread that evaluates expressions over its own cells (`G`, then
two different cells) as well -/
example :
    let eval : List (Op Lk) := [.acquire (lkG 1), .acquire (lkD 1), .acquire (lkD 2),
      .release (lkD 2), .release (lkD 1), .release (lkG 1)]
    systemConforms edges cellsOf0 (eval :: repairedScenario) = true ∧
    systemNoRelock (eval :: repairedScenario) = true ∧
    systemBalanced (eval :: repairedScenario) = true := by
  decide

/-- the re-locking program is excluded by the side condition (it is not idle) -/
example : systemNoRelock cexDD = false := by decide

/-- `schedEP`, which deadlocked the old start against a sender, does not deadlock the repaired one
(Test, by `decide`.) -/
example : deadlockedSet ((run (start [progStart 2, progSend 1]) schedEP)) [0, 1] = false := by
  decide

end Rfsm.Locks
