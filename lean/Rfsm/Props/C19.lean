import Rfsm.Audit
import Rfsm.Proofs.DescriptorLemmas
/-!
# C19 — Event descriptors match by whole dot-separated token prefixes, for all names

Model: `Rfsm.Descriptor` (bytes).  `transitionMatches ds name` is what the XML reader's
normalisation of an `event` attribute (already split at white space into `ds`) followed by
`Transition::nameMatch` computes.

The statement is at the byte level.  It coincides with the character-level statement of the
property for every valid UTF-8 string because the byte `0x2E` ('.') and `0x2A` ('*') never occur
inside a multi-byte sequence (all bytes of a multi-byte sequence are ≥ 0x80) — this is the one
fact about UTF-8 that is assumed, not proved.
-/
namespace Rfsm.Descriptor

/-- The property at full strength: a transition declared with descriptors `ds` matches `name`
exactly when some descriptor is `*` (after removing insignificant suffixes) or its tokens are a
prefix of the name's tokens. -/
def C19_full : Prop :=
  ∀ (ds : List Str) (name : Str),
    transitionMatches ds name = true ↔
      ∃ d ∈ ds, norm d = [star] ∨ tokens (norm d) <+: tokens name

theorem C19_nameMatch (wildcard : Bool) (events : List Str) (name : Str) :
    nameMatch wildcard events name = true ↔
      wildcard = true ∨ ∃ e ∈ events, tokens e <+: tokens name := by
  simp [nameMatch, descMatch_iff]
#assert_axioms C19_nameMatch

theorem C19 : C19_full := by
  intro ds name
  simp only [transitionMatches, C19_nameMatch, readWildcard, readEvents, List.contains_eq_mem,
    List.mem_map, decide_eq_true_eq]
  constructor
  · rintro (⟨d, hd, h⟩ | ⟨e, ⟨d, hd, rfl⟩, h⟩)
    · exact ⟨d, hd, Or.inl h⟩
    · exact ⟨d, hd, Or.inr h⟩
  · rintro ⟨d, hd, h | h⟩
    · exact Or.inl ⟨d, hd, h⟩
    · exact Or.inr ⟨norm d, ⟨d, hd, rfl⟩, h⟩
#assert_axioms C19

/-- a trailing `.` is insignificant -/
theorem C19_trailing_dot (d : Str) : norm (d ++ [dot]) = norm d := by
  simp [norm, normRev_dot]
#assert_axioms C19_trailing_dot

/-- a trailing `.*` is insignificant -/
theorem C19_trailing_dot_star (d : Str) : norm (d ++ [dot, star]) = norm d := by
  simp [norm, normRev_star_dot]
#assert_axioms C19_trailing_dot_star

/-- normalisation is idempotent (a stored descriptor never ends in `.` or `.*`) -/
theorem C19_norm_idem (d : Str) : norm (norm d) = norm d := by
  simp [norm, normRev_idem]
#assert_axioms C19_norm_idem

/-- `e`, `e.` and `e.*` are the same descriptor -/
theorem C19_equivalent_spellings (e : Str) (ds : List Str) (name : Str) :
    transitionMatches (e :: ds) name = transitionMatches ((e ++ [dot]) :: ds) name ∧
    transitionMatches (e :: ds) name = transitionMatches ((e ++ [dot, star]) :: ds) name := by
  simp [transitionMatches, readWildcard, readEvents, C19_trailing_dot, C19_trailing_dot_star]
#assert_axioms C19_equivalent_spellings

/-- `*` matches every name -/
theorem C19_star (ds : List Str) (name : Str) (h : [star] ∈ ds) :
    transitionMatches ds name = true := by
  rw [C19]
  exact ⟨[star], h, Or.inl (by decide)⟩
#assert_axioms C19_star

/-- never a partial token: a match of a `*`-free descriptor list means one whole-token prefix;
in particular the name's first `k` tokens *equal* the descriptor's `k` tokens (so matching is
case sensitive: bytes are compared for equality). -/
theorem C19_whole_tokens (ds : List Str) (name : Str)
    (hs : ∀ d ∈ ds, norm d ≠ [star]) (h : transitionMatches ds name = true) :
    ∃ d ∈ ds, (tokens name).take (tokens (norm d)).length = tokens (norm d) := by
  obtain ⟨d, hd, h | h⟩ := (C19 ds name).1 h
  · exact absurd h (hs d hd)
  · exact ⟨d, hd, List.prefix_iff_eq_take.1 h |>.symm⟩
#assert_axioms C19_whole_tokens

/-! Non-vacuity and concrete instances ("error foo" from the Recommendation). -/
-- "error foo" vs error.send.failed
example : transitionMatches [[101, 114, 114, 111, 114], [102, 111, 111]] [101, 114, 114, 111, 114, 46, 115, 101, 110, 100, 46, 102, 97, 105, 108, 101, 100] = true := by decide
-- "error foo" vs errors.my.custom
example : transitionMatches [[101, 114, 114, 111, 114], [102, 111, 111]] [101, 114, 114, 111, 114, 115, 46, 109, 121, 46, 99, 117, 115, 116, 111, 109] = false := by decide
-- "error.*" vs error
example : transitionMatches [[101, 114, 114, 111, 114, 46, 42]] [101, 114, 114, 111, 114] = true := by decide
-- case
example : transitionMatches [[69, 114, 114, 111, 114]] [101, 114, 114, 111, 114] = false := by decide
-- "é" vs é.x (the defect repaired by the fix: commit)
example : transitionMatches [[195, 169]] [195, 169, 46, 120] = true := by decide
-- "é" vs éa.b
example : transitionMatches [[195, 169]] [195, 169, 97, 46, 98] = false := by decide
-- empty token
example : tokens [97, 46, 46, 98] = [[97], [], [98]] := by decide

end Rfsm.Descriptor
