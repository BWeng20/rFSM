import Rfsm.Audit
import Rfsm.Proofs.TimerLemmas
import Rfsm.Proofs.DurationLemmas
/-!
# C16 — Delayed sends fire once, not early, in due-time order, unless cancelled

Model: `Rfsm.Timer` (`lean/Rfsm/Model/Timer.lean`).  A *schedule* is a list of `Op`s: the session
thread's `send` / `cancel` / `assign` / `terminate`, the passage of time `tick t`, `wake` (the
timer thread runs and pops everything that is due — possibly much later than the first due time)
and `stop` (the `Stop` message that the dropped `timer::Timer` sent reaches the scheduler thread;
since the repair of P19 it no longer matters when: `terminate` itself drops every guard).
"For all schedules" is a universal quantifier over `List (Op δ ε)`; the datamodel `δ` and the
event type `ε` are arbitrary types, `mk : δ → ε` is everything a `<send>` evaluates.

Time in the model is the logical clock of one session; the theorems do not depend on the timer
thread waking up promptly.  What is trusted about the crate `timer` is listed in the model's header.
-/
namespace Rfsm.Timer

variable {δ ε : Type}

/-- states reachable from a fresh session (any distance to chrono's last date, any datamodel) -/
def Reachable (t : Timer δ ε) : Prop :=
  ∃ (hr : Nat) (d : δ) (ops : List (Op δ ε)), t = (Timer.initFull hr d).run ops

theorem Reachable.wf {t : Timer δ ε} (h : Reachable t) : WF t := by
  obtain ⟨hr, d, ops, rfl⟩ := h
  exact (WF.initFull hr d).run ops
#assert_axioms Reachable.wf

theorem Reachable.run {t : Timer δ ε} (h : Reachable t) (ops : List (Op δ ε)) : Reachable (t.run ops) := by
  obtain ⟨hr, d, ops0, rfl⟩ := h
  refine ⟨hr, d, ops0 ++ ops, ?_⟩
  generalize Timer.initFull hr d = u
  induction ops0 generalizing u with
  | nil => rfl
  | cons o a ih => exact ih (u.step o)
#assert_axioms Reachable.run

/-! ## The clauses of the property -/

/-- (e)+(a), under an extra assumption `side` on state and payload (`True` in `C16_full`).  A `<send>` executed in
state `t`:
whatever happens afterwards (any schedule, in particular any later `assign`), the receiver of a
delivery of *that* send reads the event value built from the data at the time of the send; the
delivery goes to the target evaluated then, and happens no earlier than `delay` after the send.
A send that is not carried out schedules and delivers nothing. -/
def ClauseValueNotEarly (side : ∀ (δ ε : Type), Timer δ ε → (δ → ε) → Prop) : Prop :=
  ∀ (δ ε : Type) (t : Timer δ ε), Reachable t →
  ∀ (id : Option SendId) (tg : Str) (delay : Int) (mk : δ → ε),
  (Accepted t tg delay → side δ ε t mk →
    ∀ (ops : List (Op δ ε)), ∀ d ∈ ((t.send id tg delay mk).run ops).log, d.entry.seq = t.nextSeq →
      d.seen = mk t.data ∧ d.entry.event = mk t.data ∧ d.entry.target = tg ∧ d.entry.sendid = id ∧
      (t.now : Int) + delay ≤ d.time) ∧
  (¬ Accepted t tg delay →
    (t.send id tg delay mk).pending = t.pending ∧ (t.send id tg delay mk).log = t.log ∧
    (t.send id tg delay mk).nextSeq = t.nextSeq)

/-- (a) deliveries by the timer are in (due, order-of-send) order; in particular of two delayed
events the one due earlier is delivered first -/
def ClauseOrdered : Prop :=
  ∀ (δ ε : Type) (t : Timer δ ε), Reachable t →
    (t.log.filter (·.viaTimer)).Pairwise (fun a b => Entry.lt a.entry b.entry)

/-- (b) at most once: no two deliveries stem from the same send -/
def ClauseAtMostOnce : Prop :=
  ∀ (δ ε : Type) (t : Timer δ ε), Reachable t →
    t.log.Pairwise (fun a b => a.entry.seq ≠ b.entry.seq)

/-- (b) exactly once: a pending entry `e` is
delivered — exactly once — by the first `wake` at or after its due time, provided no operation in
between cancels it (`<cancel>` with its id), and the session does not terminate (no `terminate`,
no `stop`).
`side t e ops` is an extra assumption about `<send>`s in `ops` (`True` in `C16_full`). -/
def ClauseExactlyOnce (side : ∀ (δ ε : Type), Timer δ ε → Entry ε → List (Op δ ε) → Prop) : Prop :=
  ∀ (δ ε : Type) (t : Timer δ ε), Reachable t →
  ∀ e ∈ t.pending, ∀ (ops : List (Op δ ε)),
    (∀ op ∈ ops, ∀ id, op = .cancel id → e.sendid ≠ some id) →
    (∀ op ∈ ops, op ≠ .terminate ∧ op ≠ .stop) →
    side δ ε t e ops →
    e.due ≤ (t.run ops).now →
    (((t.run ops).wake.log.filter (fun d => d.entry.seq = e.seq)).length = 1 ∧
     ∃ d ∈ (t.run ops).wake.log, d.entry = e ∧ d.viaTimer = true)

/-- (c) `<cancel sendid=id>`: exactly the pending entries sent with `id` disappear (ALL of them, if
several sends with that id are pending), nothing is delivered, every other entry stays, exactly the
guards registered under other ids (or under none) stay; the cancelled entries are never delivered later. -/
def ClauseCancel : Prop :=
  ∀ (δ ε : Type) (t : Timer δ ε), Reachable t → t.alive = true → ∀ (id : SendId),
    (t.cancel id).pending = t.pending.filter (fun e => e.sendid ≠ some id) ∧
    (t.cancel id).log = t.log ∧
    (t.cancel id).delayed = t.delayed.filter (fun p => p.1 ≠ some id) ∧
    ∀ (ops : List (Op δ ε)), ∀ e ∈ t.pending, e.sendid = some id →
      ∀ d ∈ ((t.cancel id).run ops).log, d.entry.seq ≠ e.seq

/-- (c) another session is not affected by anything a session does: by construction of `World.step`, each session
has its own `Timer` -/
def ClauseOtherSession : Prop :=
  ∀ (δ ε : Type) (w : World δ ε) (op : Op δ ε),
    (w.step .A op).b = w.b ∧ (w.step .B op).a = w.a

/-- (d) as the property states it: a terminated session delivers nothing any more -/
def ClauseTerminate : Prop :=
  ∀ (δ ε : Type) (t : Timer δ ε), Reachable t → ∀ (ops : List (Op δ ε)),
    (t.terminate.run ops).log = t.log

/-- (d) for ANY state (reachable or not): nothing is delivered once the timer's scheduler thread has
processed the `Stop` message that the dropped `Fsm.timer` sent.  Not a conjunct of `C16_full`
(`C16_terminate_stop`). -/
def ClauseTerminateStop : Prop :=
  ∀ (δ ε : Type) (t : Timer δ ε) (ops : List (Op δ ε)),
    (t.terminate.stop.run ops).log = t.log ∧ (t.terminate.stop.run ops).pending = []

/-- (f) duration syntax: on every text of `\d*(\.\d+)?(ms|s|m|h|d)` (recognised by the independent
`css2`) the result is the grammar's value (saturated at `i64::MAX`), provided an integer literal
fits `i64`; strings that start with neither white space nor a number (digit, sign, `.`) give the abort value −1. -/
def ClauseDuration : Prop :=
  (∀ (s : Str) (v : Nat), css2 s = some v →
      (∀ ip u, s = css2Text ip [] u → allDigits ip = true → digitsVal ip ≤ i64Max) →
      parseDuration s = ((min v i64Max : Nat) : Int)) ∧
  (∀ (c : Nat) (r : Str), isDigit c = false → c ≠ 45 → c ≠ 43 → c ≠ 46 → isWs c = false →
      parseDuration (c :: r) = -1)

def C16_full : Prop :=
  ClauseValueNotEarly (fun _ _ _ _ => True) ∧ ClauseOrdered ∧ ClauseAtMostOnce ∧
  ClauseExactlyOnce (fun _ _ _ _ _ => True) ∧
  ClauseCancel ∧ ClauseOtherSession ∧ ClauseTerminate ∧ ClauseDuration

theorem C16_value_not_early : ClauseValueNotEarly (fun _ _ _ _ => True) := by
  intro δ ε t hr id tg delay mk
  refine ⟨?_, fun hna => ?_⟩
  · intro hacc _ ops d hd hseq
    have hw' : WF ((t.send id tg delay mk).run ops) := (hr.wf.step (.send id tg delay mk)).run ops
    rw [send_accepted t id tg delay mk hacc] at hd hw'
    -- the delivery's entry has a serial number the state after the send has given out: it is an entry
    -- of that state, and there the only one with this number is the one just made
    have hmem := (Frame.run _ ops).log hd (by rw [nextSeq_accept, hseq]; exact Nat.lt_succ_self _)
    obtain ⟨-, -, hlt, -⟩ := (wf_iff t).1 hr.wf
    have he : d.entry = ⟨t.now + delay.toNat, t.nextSeq, id, tg, mk t.data⟩ := by
      rcases List.mem_cons.1 ((sent_accept_perm t _).mem_iff.1 hmem) with h | h
      · exact h
      · have := hlt _ h; omega
    have htime := (hw'.ltime d hd).1
    have h0 := hacc.2.1
    rw [hw'.lseen d hd, he] at *
    exact ⟨rfl, rfl, rfl, rfl, by simp only at htime; omega⟩
  · obtain ⟨n, hn⟩ := send_rejected t id tg delay mk hna
    rw [hn]; exact ⟨rfl, rfl, rfl⟩
#assert_axioms C16_value_not_early

/-- (a) in its plain form: every delivery happens at or after its due time -/
theorem C16_not_early (t : Timer δ ε) (h : Reachable t) : ∀ d ∈ t.log, d.entry.due ≤ d.time :=
  fun d hd => (h.wf.ltime d hd).1
#assert_axioms C16_not_early

theorem C16_ordered : ClauseOrdered := fun _ _ t hr =>
  -- the delivered part of `t.queue`
  List.pairwise_map.1 (List.pairwise_append.1 ((wf_iff t).1 hr.wf).1).1
#assert_axioms C16_ordered

/-- of two timer deliveries the one with the strictly earlier due time comes first in the log -/
theorem C16_due_earlier_first (t : Timer δ ε) (h : Reachable t) (l1 l2 : List (Delivery ε))
    (a b : Delivery ε) (hl : t.log.filter (·.viaTimer) = l1 ++ a :: l2) (hb : b ∈ l2) :
    a.entry.due ≤ b.entry.due := by
  have hs := C16_ordered δ ε t h
  rw [hl] at hs
  have := (List.pairwise_cons.1 (List.pairwise_append.1 hs).2.1).1 b hb
  unfold Entry.lt at this; omega
#assert_axioms C16_due_earlier_first

theorem C16_at_most_once : ClauseAtMostOnce := fun _ _ _ hr => hr.wf.lnodup
#assert_axioms C16_at_most_once

/-- (b) exactly once, with no side condition: later `<send>`s — with whatever id — do not touch the
guard of a pending entry -/
theorem C16_exactly_once : ClauseExactlyOnce (fun _ _ _ _ _ => True) := by
  intro δ ε t hr e he ops hc hterm _ hdue
  have hw := hr.wf.run ops
  obtain ⟨d, hd, hde, hv⟩ :=
    wake_delivers hw (keep_run hr.wf (List.mem_append_right _ he) ops hc hterm) hdue
  exact ⟨hde ▸ congrArg List.length (filter_key_eq (f := fun d => d.entry.seq) hw.wake.lnodup hd), d, hd, hde, hv⟩
#assert_axioms C16_exactly_once

theorem C16_cancel : ClauseCancel := by
  intro δ ε t hr halive id
  have hw := hr.wf
  have hp := cancel_pending hw halive id
  have hdr := Drops.cancel t id
  refine ⟨hp, hdr.log, ?_, ?_⟩
  · unfold Timer.cancel; rw [if_neg (by simp [halive])]
  intro ops e he hs d hd hseq
  -- a delivery with the serial number of `e` would be a delivery of an entry `t.cancel id` has: of `e`
  have hmem := (Frame.run (t.cancel id) ops).log hd (by rw [hdr.nextSeq, hseq]; exact hw.pseq e he)
  obtain ⟨-, hnodup, -⟩ := (wf_iff t).1 hw
  have hde : d.entry = e :=
    eq_of_key_eq (f := (·.seq)) hnodup (hdr.sent.subset hmem) (mem_sent.2 (Or.inr he)) hseq
  rw [hde] at hmem
  rcases mem_sent.1 hmem with ⟨d', hd', hde'⟩ | hm
  · rw [hdr.log] at hd'
    exact hw.ldisj d' hd' e he (by rw [hde'])
  · rw [hp] at hm
    simpa [hs] using (List.mem_filter.1 hm).2
#assert_axioms C16_cancel

theorem C16_other_session : ClauseOtherSession := fun _ _ _ _ => ⟨rfl, rfl⟩
#assert_axioms C16_other_session

/-- (d) as stated: the end of the session thread drops every guard, and every pending entry has one -/
theorem C16_terminate : ClauseTerminate := by
  intro δ ε t hr ops
  exact (dead_run t.terminate rfl (terminate_pending hr.wf) ops).1
#assert_axioms C16_terminate

/-- after termination nothing is pending either, whatever happens later -/
theorem C16_terminate_nothing_pending (t : Timer δ ε) (hr : Reachable t) (ops : List (Op δ ε)) :
    (t.terminate.run ops).pending = [] :=
  (dead_run t.terminate rfl (terminate_pending hr.wf) ops).2
#assert_axioms C16_terminate_nothing_pending

theorem C16_terminate_stop : ClauseTerminateStop := by
  intro δ ε t ops
  have h : t.terminate.stop.alive = false ∧ t.terminate.stop.pending = [] ∧ t.terminate.stop.log = t.log := by
    simp [Timer.stop, Timer.terminate]
  have := dead_run t.terminate.stop h.1 h.2.1 ops
  exact ⟨this.1.trans h.2.2, this.2⟩
#assert_axioms C16_terminate_stop

theorem C16_duration : ClauseDuration := by
  constructor
  · intro s v hs hrange
    obtain ⟨ip, fp, u, m, rfl, hip, hfp, hne, hu, rfl⟩ := css2_some s v hs
    rw [parseDuration_css2Text ip fp u m hip hfp hne hu]
    by_cases hc : fp = [] ∧ i64Max < digitsVal ip
    · have := hrange ip u (by rw [hc.1]) hip
      omega
    · rw [if_neg hc]
  · intro c r hd h45 h43 h46 hws
    unfold parseDuration
    rw [if_neg (by simp), nextToken_cons c r hws, if_neg (by simp [hd, h45, h43, h46])]
    by_cases hst : isStop c = true
    · simp [hst]
    · simp only [hst]
      split
      · rename_i n rest heq
        exact absurd (congrArg Lexed.tok heq) (readIdent_not_number _ _ n)
      · rfl
#assert_axioms C16_duration

/-- every text of the CSS2 language, constructively: all digit lists, all five units -/
theorem C16_duration_all_digit_lists (ip fp u : Str) (m : Nat) (hip : allDigits ip = true)
    (hfp : allDigits fp = true) (hne : ip ≠ [] ∨ fp ≠ []) (hu : (u, m) ∈ css2Units) :
    css2 (css2Text ip fp u) = some (css2Value ip fp m) ∧
    parseDuration (css2Text ip fp u) =
      if fp = [] ∧ i64Max < digitsVal ip then -1 else ((min (css2Value ip fp m) i64Max : Nat) : Int) :=
  ⟨css2_css2Text ip fp u m hip hfp hne hu, parseDuration_css2Text ip fp u m hip hfp hne hu⟩
#assert_axioms C16_duration_all_digit_lists

/-- a number followed by a word of letters that is neither a unit (in the accepted spellings) nor a
keyword and does not start with `e`/`E`: the abort value, for all digit lists and all such words
(`1Sx`, `1sec`, `1mS`, `2.5min`, …) -/
theorem C16_duration_unknown_unit (ip fp : Str) (c : Nat) (r : Str) (hip : allDigits ip = true)
    (hfp : allDigits fp = true) (hne : ip ≠ [] ∨ fp ≠ []) (hu : ∀ x ∈ c :: r, isLetter x)
    (he : c ≠ 69 ∧ c ≠ 101) (hunit : unitMult (c :: r) = none)
    (hkw : c :: r ≠ kwTrue ∧ c :: r ≠ kwFalse ∧ c :: r ≠ kwNull)
    (hrange : fp ≠ [] ∨ digitsVal ip ≤ i64Max) :
    parseDuration (css2Text ip fp (c :: r)) = -1 := by
  -- `hrange` is not needed: an integer literal beyond `i64` is a lexer error, and that gives −1 as well
  clear hrange
  exact parseDuration_unknown_unit ip fp c r hip hfp hne hu he hunit hkw
#assert_axioms C16_duration_unknown_unit

/-! ## The verdict on the repaired code: the property holds as stated -/

theorem C16 : C16_full :=
  ⟨C16_value_not_early, C16_ordered, C16_at_most_once, C16_exactly_once,
   C16_cancel, C16_other_session, C16_terminate, C16_duration⟩
#assert_axioms C16

/-! ## Regression: the schedules that refuted the property before the repairs -/

/-- P15 (repaired): two pending sends with the SAME send id — both are delivered, each at its time. -/
def p15Script : List (Op Nat Nat) :=
  [.send (some [88]) [] 100 (fun _ => 1), .send (some [88]) [] 200 (fun _ => 2), .tick 150, .wake, .tick 300,
   .wake]

theorem C16_regression_duplicate_sendid :
    (((Timer.init 0 : Timer Nat Nat).run p15Script).log.map (fun d => (d.entry.event, d.time))) = [(1, 150), (2, 300)] := by
  decide
#assert_axioms C16_regression_duplicate_sendid

/-- … and `<cancel>` of that id cancels both. -/
theorem C16_regression_cancel_all_with_id :
    ((Timer.init 0 : Timer Nat Nat).run
      [.send (some [88]) [] 100 (fun _ => 1), .send (some [88]) [] 200 (fun _ => 2), .send none [] 200 (fun _ => 3),
       .cancel [88], .tick 300, .wake]).log.map (fun d => d.entry.event) = [3] := by
  decide
#assert_axioms C16_regression_cancel_all_with_id

/-- P19 (repaired): a send due at 100, the session thread ends at 50, the timer thread wakes at 100
before it has seen `Stop` — nothing is delivered, with or without id. -/
def stopLatencyScript : List (Op Nat Nat) := [.tick 50, .terminate, .tick 100, .wake, .stop]

theorem C16_regression_stop_latency :
    ((Timer.init 0 : Timer Nat Nat).run
      ([.send none [] 100 (fun _ => 1), .send (some [65]) [] 100 (fun _ => 2)] ++ stopLatencyScript)).log = [] := by
  decide
#assert_axioms C16_regression_stop_latency

/-- P18 (repaired): a payload is read as it was built, whatever is assigned afterwards. -/
theorem C16_regression_payload_is_a_copy :
    ((Timer.init 1 : Timer Nat (Bool × Nat)).run
      [.send none [] 200 (fun x => (true, x)), .assign (fun _ => 99), .tick 200, .wake]).log.map (fun d => d.seen)
      = [(true, 1)] := by
  decide
#assert_axioms C16_regression_payload_is_a_copy

/-- C12-huge-delay (repaired): a delay beyond chrono's date range is an illegal delay — error.execution,
nothing scheduled, the session goes on. -/
theorem C16_regression_huge_delay :
    let t := (Timer.init 0 : Timer Nat Nat).run
      [.send none [] 100 (fun _ => 1), .send none [] 9223372036854775807 (fun _ => 2), .send none [] 0 (fun _ => 3),
       .tick 200, .wake]
    t.errors = 1 ∧ t.alive = true ∧ t.log.map (fun d => d.entry.event) = [3, 1] := by
  decide
#assert_axioms C16_regression_huge_delay

/-! ## Non-vacuity: the hypotheses are satisfiable, the operations do something -/

-- two sends with different ids, a data change in between, an unrelated cancel: both are delivered,
-- in due order, each with the value of the data when it was sent
example : ((Timer.init 5 : Timer Nat Nat).run
    [.send (some [65]) [] 200 (fun x => x), .assign (fun _ => 9), .send (some [66]) [] 100 (fun x => x),
     .cancel [67], .tick 150, .wake, .tick 250, .wake]).log.map (fun d => (d.entry.event, d.entry.due, d.time))
    = [(9, 100, 150), (5, 200, 250)] := by decide
-- cancel before the due time prevents delivery; after the due time it is too late
example : ((Timer.init 0 : Timer Nat Nat).run
    [.send (some [65]) [] 100 (fun _ => 1), .tick 50, .cancel [65], .tick 150, .wake]).log.length = 0 := by decide
example : ((Timer.init 0 : Timer Nat Nat).run
    [.send (some [65]) [] 100 (fun _ => 1), .tick 150, .wake, .cancel [65]]).log.length = 1 := by decide
-- termination discards at once; what was delivered before stays
example : ((Timer.init 0 : Timer Nat Nat).run
    [.send none [] 100 (fun _ => 1), .tick 50, .terminate, .tick 150, .wake]).log.length = 0 := by decide
example : ((Timer.init 0 : Timer Nat Nat).run
    [.send none [] 100 (fun _ => 1), .tick 120, .wake, .terminate, .tick 150, .wake]).log.length = 1 := by decide
-- a late timer thread: still due order, still not early
example : ((Timer.init 0 : Timer Nat Nat).run
    [.send none [] 100 (fun _ => 1), .tick 120, .send none [] 10 (fun _ => 2), .tick 500, .wake]).log.map
      (fun d => (d.entry.event, d.time)) = [(1, 500), (2, 500)] := by decide
-- durations ("6.7s", ".5s", "1Sx", "x1S", "5", "1.5.5s")
example : parseDuration [54, 46, 55, 115] = 6700 := by decide
example : parseDuration [46, 53, 115] = 500 := by decide
example : parseDuration [49, 83, 120] = -1 := by decide
example : parseDuration [120, 49, 83] = -1 := by decide
example : parseDuration [53] = 0 := by decide
example : parseDuration [49, 46, 53, 46, 53, 115] = 0 := by decide
example : css2 [54, 46, 55, 115] = some 6700 := by decide

end Rfsm.Timer
