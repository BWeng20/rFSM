import Rfsm.Audit
import Rfsm.Proofs.ExtLemmas
import Rfsm.Model.Vdm
/-!
# C09 — In(), system variables and data binding behave as SCXML specifies

What the interpreter contributes (M-INT, generic in the data model): *which* configuration the data
model is shown at each evaluation point, *when* `_event` is (re)bound, and *when* a state's data are
initialised.  What the data models contribute (In() itself, the read-only system variables) is
outside M-INT; for the real data models it is checked by the oracle of the correspondence run
(harness/src/sysvars.rs), and the deviations found there are known findings.  The import of
`Rfsm.Model.Vdm` (what the driver runs as data model) puts it into the library; no theorem uses it.
-/
namespace Rfsm.Interp
open Rfsm.Descriptor (Str)

variable {σ : Type}

/-- guards are evaluated against the session's current configuration (selection does not change it) -/
theorem C09_guard_sees_configuration (env : Env σ) (d : Doc) (s : Sess σ) (t : Nat)
    (hc : (getTrans d t).cond ≠ []) :
    conditionMatch env d s t =
      (match env.cond s.dm s.cfg (getTrans d t).cond with
       | (o, some b) => (s.absorb o, b)
       | (o, none) => ({ (s.absorb o) with iq := (s.absorb o).iq ++ [errorExecution] }, false)) := by
  unfold conditionMatch
  have : (getTrans d t).cond.isEmpty = false := by
    cases h : (getTrans d t).cond with
    | nil => exact absurd h hc
    | cons a l => rfl
  simp only [this, Bool.false_eq_true, ↓reduceIte]
  rfl
#assert_axioms C09_guard_sees_configuration

/-- a content block is run with the configuration the session has at that moment -/
theorem C09_content_sees_configuration (env : Env σ) (s : Sess σ) (c : Nat) (hc : c ≠ 0) :
    runContent env s c = (s.emit [.content c]).absorb (env.exec s.dm s.cfg c) := by
  unfold runContent
  simp [hc, Sess.emit]
#assert_axioms C09_content_sees_configuration

/-- mid-microstep, exit side: a state's onexit blocks run while the state itself (and everything
    not yet exited) is still in the configuration; it is removed right after them -/
theorem C09_onexit_configuration (env : Env σ) (d : Doc) (s : Sess σ) (sid : Nat) :
    (cancelChildren d (s.emit [.exit sid]) sid).cfg = s.cfg ∧
    exitOne env d s sid =
      { ((getState d sid).onexit.foldl (runContent env) (cancelChildren d (s.emit [.exit sid]) sid)) with
        cfg := odel ((getState d sid).onexit.foldl (runContent env) (cancelChildren d (s.emit [.exit sid]) sid)).cfg sid } :=
  ⟨by rw [cancelChildren_eq]; rfl, rfl⟩
#assert_axioms C09_onexit_configuration

/-- mid-microstep, transition bodies: they run on the configuration that is left after all exits -/
theorem C09_transition_content_configuration (env : Env σ) (d : Doc) (s : Sess σ) (ts : List Nat) :
    ∀ x, x ∈ (exitStates env d s ts).cfg ↔ x ∈ s.cfg ∧ x ∉ computeExitSet d s.hv s.cfg ts :=
  fun _ => mem_exitStates_cfg
#assert_axioms C09_transition_content_configuration

/-- mid-microstep, entry side: a state is in the configuration before its data are (late-)bound and
    before its onentry blocks run -/
theorem C09_onentry_configuration (env : Env σ) (d : Doc) (acc : EntryAcc) (s : Sess σ) (sid : Nat) :
    (enterInit env d (enterAdd s sid) sid).cfg = oadd s.cfg sid ∧
    enterOne env d acc s sid =
      enterFinal env d ((entryContent d acc sid).foldl (runContent env) (enterInit env d (enterAdd s sid) sid)) sid :=
  ⟨by obtain ⟨o, e, h⟩ := enterInit_eq env d (enterAdd s sid) sid; rw [h]; rfl, rfl⟩
#assert_axioms C09_onentry_configuration

/-- `_event` is bound to an external event before anything is evaluated for it: the data the
    selection starts from are those after `setEvent` and then the `<finalize>` blocks (forwarding
    leaves the data alone: the outer fold of `fun dm _ => dm` is the identity, `foldl_fixed`).  For an
    internal event see `C03_oldest_internal_event`. -/
theorem C09_event_bound_before_selection (env : Env σ) (d : Doc) (s : Sess σ) (e : Event) :
    (preExternal env d s e).dm =
      (forwardList d (forgetDoneChild (s.emit [.ext e.name]) e) e).foldl (fun dm _ => dm)
        (((finalizeList d (forgetDoneChild (s.emit [.ext e.name]) e) e).foldl (runContent env)
          { (forgetDoneChild (s.emit [.ext e.name]) e) with
            dm := env.setEvent (forgetDoneChild (s.emit [.ext e.name]) e).dm e }).dm) := by
  unfold preExternal
  simp only [foldl_forwardOne_eq, foldl_fixed]
  rfl
#assert_axioms C09_event_bound_before_selection

/-- late binding: a state's data are initialised at its first entry only — the call happens iff the
    state has not been entered before, and marks it entered -/
theorem C09_late_binding_once (env : Env σ) (d : Doc) (s : Sess σ) (sid : Nat) (hl : d.late = true) :
    (sid ∈ s.entered → enterInit env d s sid = s) ∧
    (sid ∉ s.entered →
      enterInit env d s sid = ({ s with entered := sid :: s.entered }.absorb (env.initData s.dm sid true)) ∧
      sid ∈ (enterInit env d s sid).entered) := by
  constructor
  · intro h
    unfold enterInit
    simp [hl, h]
  · intro h
    unfold enterInit
    simp [hl, h, Sess.absorb]
#assert_axioms C09_late_binding_once

/-- early binding: `enterInit` never initialises anything (what `initSession` does at load:
    `C09_data_initialised_at_load`) -/
theorem C09_early_binding (env : Env σ) (d : Doc) (s : Sess σ) (sid : Nat) (he : d.late = false) :
    enterInit env d s sid = s := by
  unfold enterInit
  simp [he]
#assert_axioms C09_early_binding

theorem C09_data_initialised_at_load (env : Env σ) (d : Doc) (dm0 : σ) :
    initSession env d dm0 =
      (let s := (allStatesPreorder d (fuelOf d) d.root).foldl
          (fun s sid => s.absorb (env.initData s.dm sid (!d.late))) ({ dm := dm0 } : Sess σ)
       if d.script != 0 then s.absorb (env.exec s.dm s.cfg d.script) else s) := rfl
#assert_axioms C09_data_initialised_at_load

/-- C09 (interpreter part): four of the clauses above (first halves of `C09_onentry_configuration`,
    `C09_onexit_configuration`, `C09_late_binding_once`; `C09_early_binding`). -/
def C09_interpreter : Prop :=
  ∀ (σ : Type) (env : Env σ) (d : Doc) (s : Sess σ) (sid : Nat),
    ((enterInit env d (enterAdd s sid) sid).cfg = oadd s.cfg sid) ∧
    ((cancelChildren d (s.emit [.exit sid]) sid).cfg = s.cfg) ∧
    (d.late = false → enterInit env d s sid = s) ∧
    (d.late = true → sid ∈ s.entered → enterInit env d s sid = s)

theorem C09_partial : C09_interpreter := by
  intro σ env d s sid
  exact ⟨(C09_onentry_configuration env d {} s sid).1, (C09_onexit_configuration env d s sid).1,
    C09_early_binding env d s sid, fun hl => (C09_late_binding_once env d s sid hl).1⟩
#assert_axioms C09_partial

end Rfsm.Interp
