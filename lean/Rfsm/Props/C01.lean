import Rfsm.Audit
import Rfsm.Proofs.ReachLemmas
import Rfsm.Proofs.TreeLemmas
import Rfsm.Proofs.RootLemmas
/-!
# C01 — The active configuration is always a legal SCXML state configuration

Model: `Rfsm.Interp` (M-INT).  `Reach env d s` over-approximates the sessions the event loop of
`interpret` passes through: it is closed under start-up, microsteps with selected transitions, and
every operation that leaves configuration and history alone.  `run_reach` states membership for the
session `mainLoop` returns — for every conformant document, every event sequence (batches, self-sent
events) and every data model; for the sessions in between no theorem about `mainLoop` states it.

`legalB` (Rfsm/Model/Legal.lean) is the decidable legal-configuration predicate; `conformantB` the
decidable structural conformance of the document tables.
-/
namespace Rfsm.Interp

variable {σ : Type}

/-- C01 at full strength: every reachable configuration of a conformant document is legal, and a
    microstep never enters an active state nor exits an inactive one. -/
def C01_full : Prop :=
  ∀ (σ : Type) (env : Env σ) (d : Doc), conformantB d = true →
    (∀ s : Sess σ, Reach env d s → legalB d s.cfg = true) ∧
    (∀ (s : Sess σ) (ev : Option Descriptor.Str), Reach env d s →
      let s1 := (select env d ev s).1
      let ts := (select env d ev s).2
      (∀ x ∈ computeExitSet d s1.hv s1.cfg ts, x ∈ s1.cfg) ∧
      (∀ x ∈ (computeEntrySet d (exitStates env d s1 ts).hv ts).toEnter, x ∉ (exitStates env d s1 ts).cfg))

/-- the configuration after a microstep: what was active and not in the exit set, plus the entry
    set (computed with the history recorded by the exit) -/
theorem C01_microstep_configuration (env : Env σ) (d : Doc) (s : Sess σ) (ts : List Nat) :
    ∀ x, x ∈ (microstep env d s ts).cfg ↔
      (x ∈ s.cfg ∧ x ∉ computeExitSet d s.hv s.cfg ts) ∨
      x ∈ (computeEntrySet d (exitStates env d s ts).hv ts).toEnter := by
  intro x
  obtain ⟨o, e, r, h⟩ := microstep_eq env d s ts
  rw [h]
  simp only [mem_foldl_oadd, mem_foldl_odel, mem_sortBy, mem_sortByDesc]
#assert_axioms C01_microstep_configuration

/-- no state is exited while inactive: the exit set is a duplicate-free part of the configuration -/
theorem C01_exit_only_active (d : Doc) (hv : Table) (cfg ts : List Nat) :
    (∀ x ∈ computeExitSet d hv cfg ts, x ∈ cfg) ∧ (computeExitSet d hv cfg ts).Nodup :=
  ⟨fun _ hx => (mem_computeExitSet.1 hx).1, computeExitSet_nodup d hv cfg ts⟩
#assert_axioms C01_exit_only_active

/-- the document root is never exited by a microstep -/
theorem C01_root_never_exited (d : Doc) (hv : Table) (cfg ts : List Nat)
    (hroot : parentOf d d.root = 0) : d.root ∉ computeExitSet d hv cfg ts := by
  intro h
  obtain ⟨_, tid, _, _, hd⟩ := mem_computeExitSet.1 h
  exact parent_ne_zero_of_mem_ancestors (isDescendant_iff.1 hd).2.2.2 hroot
#assert_axioms C01_root_never_exited

/-- a reachable configuration never lists a state twice and never contains a history pseudo-state -/
theorem C01_no_duplicates_no_history (env : Env σ) (d : Doc) (hc : conformantB d = true)
    (s : Sess σ) (h : Reach env d s) :
    s.cfg.Nodup ∧ ∀ x ∈ s.cfg, isHistoryState d x = false := by
  have hp := conformant_noHistParent hc
  refine Reach.inv (fun cfg _ => cfg.Nodup ∧ ∀ x ∈ cfg, isHistoryState d x = false) ?_ ?_ h
  · intro s0 hcfg _
    refine ⟨?_, fun x hx => ?_⟩
    · obtain ⟨o, e, r, h⟩ := enterStates_eq env d s0 (rootInit d)
      rw [h, hcfg]
      exact nodup_foldl_oadd List.nodup_nil
    · rcases mem_enterStates_cfg.1 hx with h | h
      · rw [hcfg] at h; cases h
      · exact computeEntrySet_noHist _ hp _ x h
  · intro s ts _ ⟨hn, hh⟩
    refine ⟨?_, fun x hx => ?_⟩
    · obtain ⟨o, e, r, h⟩ := microstep_eq env d s ts
      rw [h]
      exact nodup_foldl_oadd (nodup_foldl_odel hn)
    · rcases (C01_microstep_configuration env d s ts x).1 hx with ⟨h, _⟩ | h
      · exact hh x h
      · exact computeEntrySet_noHist _ hp _ x h
#assert_axioms C01_no_duplicates_no_history

/-- … hence the same holds for the session the event loop of an actual run returns, whatever the
    external events, batches and data model -/
theorem C01_run (env : Env σ) (d : Doc) (hc : conformantB d = true) (c : Descriptor.Str) (m f : Nat)
    (dm0 : σ) (feed : List (List Event)) (r : Sess σ × Bool)
    (h : mainLoop env d c m f (startSession env d dm0) feed = some r) :
    r.1.cfg.Nodup ∧ ∀ x ∈ r.1.cfg, isHistoryState d x = false :=
  C01_no_duplicates_no_history env d hc r.1 (run_reach env d c m f dm0 feed r h)
#assert_axioms C01_run

/-- the parent pointers of a conformant document form a tree: a parent precedes its children in
    document order, the walk up from every state ends at the root, descent is transitive and
    asymmetric (all within the fuel the interpreter model walks with) -/
theorem C01_tree (d : Doc) (hc : conformantB d = true) :
    TreeLike d ∧
    (∀ x p q, isDescendant d x p = true → isDescendant d p q = true → isDescendant d x q = true) ∧
    (∀ x p, isDescendant d x p = true → isDescendant d p x = false) :=
  ⟨conformant_treeLike hc, fun _ _ _ h1 h2 => isDescendant_trans (conformant_treeLike hc) h1 h2,
   fun _ _ h => isDescendant_asymm (conformant_treeLike hc) h⟩
#assert_axioms C01_tree

/-- **exit half of "every active state's parent is active"**: the exit set of a microstep is closed
    under active descendants — when a state is exited, every active state below it is exited too
    (any history, configuration and transition set) -/
theorem C01_exit_descendant_closed (d : Doc) (hc : conformantB d = true) (hv : Table) (cfg ts : List Nat)
    (p x : Nat) (hp : p ∈ computeExitSet d hv cfg ts) (hx : x ∈ cfg) (hd : isDescendant d x p = true) :
    x ∈ computeExitSet d hv cfg ts :=
  computeExitSet_descendant_closed (conformant_treeLike hc) hv cfg ts hp hx hd
#assert_axioms C01_exit_descendant_closed

/-- … hence among the states that stay active the clause is preserved: a state that is not exited
    and whose parent was active still has an active parent after the exit phase of the microstep -/
theorem C01_kept_parent_active (env : Env σ) (d : Doc) (hc : conformantB d = true) (s : Sess σ)
    (ts : List Nat) (x : Nat) (hx0 : x ≠ 0) (hpar : parentOf d x ≠ 0)
    (hx : x ∈ (exitStates env d s ts).cfg) (hp : parentOf d x ∈ s.cfg) :
    parentOf d x ∈ (exitStates env d s ts).cfg := by
  -- `hx0` is not needed: `parentOf d 0 = 0`, so `hpar` implies it
  clear hx0
  have ht := conformant_treeLike hc
  have hx' := mem_exitStates_cfg.1 hx
  exact mem_exitStates_cfg.2 ⟨hp, fun h => hx'.2
    (computeExitSet_descendant_closed ht s.hv s.cfg ts h hx'.1 (isDescendant_parent ht hpar))⟩
#assert_axioms C01_kept_parent_active

/-- the clause "the document root is active" of `legalB` is preserved by every microstep (for any
    transition set, history and data model): once the root is active it stays active -/
theorem C01_root_stays_active (env : Env σ) (d : Doc) (hroot : parentOf d d.root = 0) (s : Sess σ)
    (ts : List Nat) (h : d.root ∈ s.cfg) : d.root ∈ (microstep env d s ts).cfg :=
  (C01_microstep_configuration env d s ts d.root).2 (Or.inl ⟨h, C01_root_never_exited d s.hv s.cfg ts hroot⟩)
#assert_axioms C01_root_stays_active

/-- … hence for every document whose start-up entry set contains the root (a closed, decidable fact
    about the document alone: `computeEntrySet d [] (rootInit d)`, see the `example` for `exDoc1`
    below) the root is active in EVERY reachable session — the first clause of `legalB` as an
    invariant of whole runs -/
theorem C01_root_active (env : Env σ) (d : Doc) (hroot : parentOf d d.root = 0)
    (h0 : d.root ∈ (computeEntrySet d [] (rootInit d)).toEnter) (s : Sess σ) (hr : Reach env d s) :
    d.root ∈ s.cfg :=
  Reach.inv (fun cfg _ => d.root ∈ cfg)
    (fun _ _ hhv => mem_enterStates_cfg.2 (Or.inr (hhv ▸ h0)))
    (fun s ts _ h => C01_root_stays_active env d hroot s ts h) hr
#assert_axioms C01_root_active

/-- **the root is active in every reachable session** of every conformant document that has at
    least one state and whose first top-level initial target is a proper state (not a history
    pseudo-state): the start-up entry set contains the root (`computeEntrySet_root`) and no microstep
    exits it.  `hnh` is a limit of the proof (`conformant_root_entered`), not of the fact. -/
theorem C01_root_active_conformant (env : Env σ) (d : Doc) (hc : conformantB d = true)
    (hk : (getState d d.root).kids ≠ [])
    (hnh : ∀ t0 ts', (getTrans d (getState d d.root).initial).target = t0 :: ts' → isHistoryState d t0 = false)
    (s : Sess σ) (hr : Reach env d s) : d.root ∈ s.cfg :=
  C01_root_active env d (conformant_treeLike hc).rootParent (conformant_root_entered hc hk hnh) s hr
#assert_axioms C01_root_active_conformant

/-- **entry half, inclusion part**: after a microstep every proper-state target of every taken
    transition is active, and so is every proper ancestor of each of its effective targets (history
    dereferenced with the values recorded by this microstep's exits) below the transition's domain —
    the ancestors a legal configuration needs are entered, for every document, history and
    transition set (no fuel side condition: the entry recursion always has fuel for its first level) -/
theorem C01_entry_targets_and_ancestors (env : Env σ) (d : Doc) (s : Sess σ) (ts : List Nat)
    (tid : Nat) (htid : tid ∈ ts) :
    let hv' := (exitStates env d s ts).hv
    (∀ t ∈ (getTrans d tid).target, isHistoryState d t = false → t ∈ (microstep env d s ts).cfg) ∧
    (∀ x ∈ effTargets d hv' (getTrans d tid),
      ∀ a ∈ getProperAncestors d x (transDomain d hv' (getTrans d tid)), a ∈ (microstep env d s ts).cfg) := by
  have h := computeEntrySet_adds d (exitStates env d s ts).hv ts tid htid
  exact ⟨fun t ht hn => (C01_microstep_configuration env d s ts t).2 (Or.inr (h.1 t ht hn)),
         fun x hx a ha => (C01_microstep_configuration env d s ts a).2 (Or.inr (h.2 x hx a ha))⟩
#assert_axioms C01_entry_targets_and_ancestors

/-- the part of `legalB` that is proved as an invariant of whole runs: the root is active, no state
    is listed twice, no member is a history pseudo-state -/
def legalCoreB (d : Doc) (cfg : List Nat) : Bool :=
  cfg.contains d.root && nodupB cfg && cfg.all (fun s => (getState d s).histType == 0)

theorem legalCoreB_iff {d : Doc} {cfg : List Nat} :
    legalCoreB d cfg = true ↔ d.root ∈ cfg ∧ cfg.Nodup ∧ ∀ x ∈ cfg, isHistoryState d x = false := by
  simp [legalCoreB, nodupB_iff, isHistoryState, and_assoc]
#assert_axioms nodupB_iff
#assert_axioms legalCoreB_iff

/-- `legalCoreB` is a sub-conjunction of `legalB` (so the oracle's `legalB` implies it) … -/
theorem legalCoreB_of_legalB (d : Doc) (cfg : List Nat) (h : legalB d cfg = true) : legalCoreB d cfg = true := by
  simp only [legalB, legalAt, Bool.and_eq_true, List.all_eq_true] at h
  exact legalCoreB_iff.2 ⟨by simpa using h.1.1, nodupB_iff.1 h.1.2,
    fun x hx => by simpa [isHistoryState] using (h.2 x hx).1.2⟩
#assert_axioms legalCoreB_of_legalB

/-- … and it holds in every reachable session (hypotheses as in `C01_root_active_conformant`) -/
theorem C01_legal_core (env : Env σ) (d : Doc) (hc : conformantB d = true)
    (hk : (getState d d.root).kids ≠ [])
    (hnh : ∀ t0 ts', (getTrans d (getState d d.root).initial).target = t0 :: ts' → isHistoryState d t0 = false)
    (s : Sess σ) (hr : Reach env d s) : legalCoreB d s.cfg = true :=
  legalCoreB_iff.2 ⟨C01_root_active_conformant env d hc hk hnh s hr, C01_no_duplicates_no_history env d hc s hr⟩
#assert_axioms C01_legal_core

/-- **no state is exited while a state below it is still active**: in the order in which
    `exitStates` processes the exit set (reverse document order, `C02_exit_order`), every exited
    descendant of a state stands before that state — together with `C01_exit_descendant_closed`:
    when a state's onexit handlers run, nothing below it is active any more -/
theorem C01_exit_descendants_first (d : Doc) (hc : conformantB d = true) (hv : Table) (cfg ts : List Nat)
    (l1 l2 : List Nat) (p x : Nat)
    (hsplit : sortByDesc (docIdOf d) (computeExitSet d hv cfg ts) = l1 ++ p :: l2)
    (hx : x ∈ cfg) (hd : isDescendant d x p = true) : x ∈ l1 := by
  have ht := conformant_treeLike hc
  have hp : p ∈ computeExitSet d hv cfg ts := by
    apply mem_sortByDesc.1
    rw [hsplit]; simp
  have hxe := computeExitSet_descendant_closed ht hv cfg ts hp hx hd
  exact descendant_before_ancestor ht (sortByDesc_sorted _ _) hsplit (mem_sortByDesc.2 hxe) hd
#assert_axioms C01_exit_descendants_first

/-- What is proved of `C01_full` as one statement (all conformant documents, all data models): a
    reachable configuration never lists a state twice and never contains a history pseudo-state; no
    state is exited while inactive; the exit set is closed under active descendants.  (The other
    results above are not part of the conjunction.)
    **Not proved** of `C01_full`: (i) for the *entered* states the clause "every active state's parent
    is active", and the clauses "exactly one active child of a compound state / of the root", "all
    children of an active parallel state are active" of `legalB`; (ii) "no state is entered while
    active" (the entry set is disjoint from what remains after the exit), which is false as stated
    (`C01_counterexample`).  Both need a termination measure for the fuel-indexed mutual recursion
    `addDesc`/`addAnc` (fuel exhaustion would add fewer states) on top of the tree lemmas
    (`C01_tree`), the invariant that recorded history values lie below the history's parent
    (`C06_stored_values`), and a legal-state-specification clause for multi-target transitions in
    `conformantB`.  These clauses are checked on every implementation trace by the oracle (`legalB`,
    clean-step). -/
theorem C01_partial (env : Env σ) (d : Doc) (hc : conformantB d = true) :
    (∀ s : Sess σ, Reach env d s → s.cfg.Nodup ∧ ∀ x ∈ s.cfg, isHistoryState d x = false) ∧
    (∀ (hv : Table) (cfg ts : List Nat), ∀ x ∈ computeExitSet d hv cfg ts, x ∈ cfg) ∧
    (∀ (hv : Table) (cfg ts : List Nat) (p x : Nat), p ∈ computeExitSet d hv cfg ts → x ∈ cfg →
      isDescendant d x p = true → x ∈ computeExitSet d hv cfg ts) :=
  ⟨fun s h => C01_no_duplicates_no_history env d hc s h,
   fun hv cfg ts => (C01_exit_only_active d hv cfg ts).1,
   fun hv cfg ts p x hp hx hd => C01_exit_descendant_closed d hc hv cfg ts p x hp hx hd⟩
#assert_axioms C01_partial

/-! ### Non-vacuity: a conformant document with a parallel state, and a legal configuration of it -/

def exDoc1 : Doc :=
  { root := 1,
    states := [
      { id := 1, docId := 1, kids := [2, 7], initial := 20 },
      { id := 2, docId := 2, parent := 1, kids := [3, 5], isParallel := true, history := [8] },
      { id := 3, docId := 3, parent := 2, kids := [4], initial := 21 },
      { id := 4, docId := 4, parent := 3, transitions := [10] },
      { id := 5, docId := 5, parent := 2, kids := [6], initial := 22 },
      { id := 6, docId := 6, parent := 5, transitions := [11] },
      { id := 7, docId := 7, parent := 1 },
      { id := 8, docId := 8, parent := 2, histType := 2, transitions := [12] }],
    transitions := [
      { id := 10, docId := 10, events := [[101]], source := 4, target := [7] },
      { id := 11, docId := 11, events := [[101]], source := 6, target := [6] },
      { id := 12, docId := 12, source := 8, target := [4] },
      { id := 20, source := 1, target := [2] }, { id := 21, source := 3, target := [4] },
      { id := 22, source := 5, target := [6] }] }

example : conformantB exDoc1 = true := by decide
example : legalB exDoc1 [1, 2, 3, 4, 5, 6] = true := by decide
example : legalB exDoc1 [1, 2, 3, 4] = false := by decide      -- a parallel child is missing
example : (computeEntrySet exDoc1 [] [20]).toEnter = [2, 3, 4, 5, 6, 1] := by decide
-- C01_entry_targets_and_ancestors on exDoc1: transition 10 (4 → 7) has effective target 7,
-- domain 1 (root): nothing between
example : effTargets exDoc1 [] (getTrans exDoc1 10) = [7] ∧
    transDomain exDoc1 [] (getTrans exDoc1 10) = 1 := by decide
example : legalCoreB exDoc1 [1, 2, 3, 4, 5, 6] = true ∧ legalCoreB exDoc1 [2, 3] = false := by decide
-- hypotheses of C01_root_active / C01_root_active_conformant for exDoc1
example : (getState exDoc1 exDoc1.root).kids ≠ [] ∧
    (getTrans exDoc1 (getState exDoc1 exDoc1.root).initial).target = [2] ∧
    isHistoryState exDoc1 2 = false := by decide
example : parentOf exDoc1 exDoc1.root = 0 ∧
    exDoc1.root ∈ (computeEntrySet exDoc1 [] (rootInit exDoc1)).toEnter := by decide
-- hypotheses of C01_exit_descendant_closed: transition 10 (4 → 7) exits the parallel 2 and, with it,
-- 6 below it
example : 2 ∈ computeExitSet exDoc1 [] [1, 2, 3, 4, 5, 6] [10] ∧ isDescendant exDoc1 6 2 = true ∧
    6 ∈ computeExitSet exDoc1 [] [1, 2, 3, 4, 5, 6] [10] := by decide
-- … and C01_exit_descendants_first: 6 stands before 2 in the exit order
example : sortByDesc (docIdOf exDoc1) (computeExitSet exDoc1 [] [1, 2, 3, 4, 5, 6] [10]) =
    [6, 5, 4, 3] ++ 2 :: [] := by decide

/-! ### A genuine violation (finding C01-history-from-inside)

The W3C algorithm, followed literally by `src/fsm.rs`, re-enters states that were never exited when
a transition whose source lies inside the parent of a history state targets that history state:
`addDescendantStatesToEnter` adds the ancestors between the restored (or default) states and the
history's parent, while the transition domain — computed from the *effective* targets — is a
smaller state, so those ancestors were not exited.  Their `onentry` content runs again. -/

/-- root 1 ⊃ compound 2 ⊃ { deep history 5 (default → 4), compound 3 ⊃ { atomic 4 } };
    transition 10 on "b": 4 → history 5 -/
def exDocH : Doc :=
  { root := 1,
    states := [
      { id := 1, docId := 1, kids := [2], initial := 20 },
      { id := 2, docId := 2, parent := 1, kids := [3], initial := 21, history := [5] },
      { id := 3, docId := 3, parent := 2, kids := [4], initial := 22 },
      { id := 4, docId := 4, parent := 3, transitions := [10] },
      { id := 5, docId := 5, parent := 2, histType := 2, transitions := [11] }],
    transitions := [
      { id := 10, docId := 10, events := [[98]], source := 4, target := [5] },
      { id := 11, docId := 11, source := 5, target := [4] },
      { id := 20, source := 1, target := [2] }, { id := 21, source := 2, target := [3] },
      { id := 22, source := 3, target := [4] }] }

/-- the trivial data model -/
def unitEnv : Env Unit :=
  { cond := fun dm _ _ => ({ dm := dm }, some true), exec := fun dm _ _ => { dm := dm },
    setEvent := fun dm _ => dm, initData := fun dm _ _ => { dm := dm },
    doneData := fun dm _ _ => ({ dm := dm }, []), invoke := fun dm _ _ _ => { dm := dm } }

theorem C01_counterexample_document : conformantB exDocH = true := by decide +kernel
#assert_axioms C01_counterexample_document

/-- after start-up the configuration is {2,3,4,1}; event "b" selects transition 10, whose exit set
    is {4} only, while its entry set contains 3 — which is still active -/
theorem C01_counterexample_step :
    let s := startSession unitEnv exDocH ()
    let s1 := (select unitEnv exDocH (some [98]) s).1
    let ts := (select unitEnv exDocH (some [98]) s).2
    ts = [10] ∧ computeExitSet exDocH s1.hv s1.cfg ts = [4] ∧
    3 ∈ (computeEntrySet exDocH (exitStates unitEnv exDocH s1 ts).hv ts).toEnter ∧
    3 ∈ (exitStates unitEnv exDocH s1 ts).cfg := by decide +kernel
#assert_axioms C01_counterexample_step

theorem C01_counterexample : ¬ C01_full := by
  intro h
  obtain ⟨_, h2⟩ := h Unit unitEnv exDocH C01_counterexample_document
  have hr := startSession_reach unitEnv exDocH ()
  have := (h2 (startSession unitEnv exDocH ()) (some [98]) hr).2
  obtain ⟨_, _, h3, h4⟩ := C01_counterexample_step
  exact this 3 h3 h4
#assert_axioms C01_counterexample

end Rfsm.Interp
